/-
  C10 — files on disk are in one-to-one correspondence with the resources being served.
-/
import Nic.Model.Files
import Nic.Lemmas.Naming
import Nic.Lemmas.Map

namespace Nic.Files
open Nic.Arb (Map)
open Nic.Naming

/-! ### file names -/

/-- **VirtualServer files**: distinct (namespace, name) pairs get distinct files — the separator
`_` cannot occur in a DNS-1123 namespace. -/
theorem vs_name_inj (ns ns' name name' : String) (h1 : Free '_' ns) (h2 : Free '_' ns')
    (h : vsFile ns name = vsFile ns' name') : ns = ns' ∧ name = name' :=
  join3_inj "vs_" "_" '_' rfl ns ns' name name' h1 h2 h

/-- **TransportServer files** likewise. -/
theorem ts_name_inj (ns ns' name name' : String) (h1 : Free '_' ns) (h2 : Free '_' ns')
    (h : tsFile ns name = tsFile ns' name') : ns = ns' ∧ name = name' :=
  join3_inj "ts_" "_" '_' rfl ns ns' name name' h1 h2 h

/-- Ingress files of one namespace are distinct for distinct names… -/
theorem ing_name_inj_partial (ns name name' : String) (h : ingFile ns name = ingFile ns name') : name = name' :=
  (String.append_right_inj _).mp h

/-- …and across namespaces without `-`, … -/
theorem ing_name_inj_nodash (ns ns' name name' : String) (h1 : Free '-' ns) (h2 : Free '-' ns')
    (h : ingFile ns name = ingFile ns' name') : ns = ns' ∧ name = name' :=
  join_inj "-" '-' rfl ns ns' name name' h1 h2 h

/-- **…but not in general (finding S-C10-a)**: `-` is a legal character of namespaces and names,
so two different Ingresses can be given the same file. -/
theorem ing_name_not_injective :
    ∃ ns name ns' name', (ns, name) ≠ (ns', name') ∧ ingFile ns name = ingFile ns' name' :=
  ⟨"a-b", "c", "a", "b-c", by decide, by decide⟩

/-- The three families never meet: VirtualServer and TransportServer files contain `_`, which no
Ingress file of DNS-1123-named objects does; and they start with different letters. -/
theorem kinds_disjoint (ns name ns' name' : String) (h1 : Free '_' ns) (h2 : Free '_' name) :
    ingFile ns name ≠ vsFile ns' name' ∧ ingFile ns name ≠ tsFile ns' name' ∧ vsFile ns name ≠ tsFile ns' name' := by
  have hi : Free '_' (ingFile ns name) := free_append.2 ⟨free_append.2 ⟨h1, (by decide : '_' ∉ "-".toList)⟩, h2⟩
  have hp : ∀ x b : String, ¬ Free '_' (x ++ "_" ++ b) :=
    fun _ _ hf => (free_append.1 (free_append.1 hf).1).2 (by decide : '_' ∈ "_".toList)
  have hv : ¬ Free '_' (vsFile ns' name') := hp _ _
  have ht : ¬ Free '_' (tsFile ns' name') := hp _ _
  refine ⟨fun e => hv (e ▸ hi), fun e => ht (e ▸ hi), fun e => ?_⟩
  have h' := congrArg String.toList e
  simp only [vsFile, tsFile, String.toList_append, List.append_assoc] at h'
  exact absurd (String.toList_injective (List.append_inj h' (by decide)).1) (by decide)

theorem replaceSlash_append (a b : String) (c : Char) :
    replaceSlash (a ++ b) c = replaceSlash a c ++ replaceSlash b c := by
  simp only [replaceSlash, String.toList_append, List.map_append, String.ofList_append]

theorem replaceSlash_free (s : String) (c : Char) (h : Free '/' s) : replaceSlash s c = s := by
  unfold replaceSlash
  rw [List.map_congr_left (g := fun x => x) (fun x hx => if_neg (fun e => h (by rw [← e]; exact hx))),
    List.map_id', String.ofList_toList]

theorem replaceSlash_join (a b sepS : String) (c : Char) (hs : sepS.toList = [c]) (ha : Free '/' a) (hb : Free '/' b) :
    replaceSlash (a ++ "/" ++ b) c = a ++ sepS ++ b := by
  have : replaceSlash "/" c = sepS := String.toList_injective <| by
    rw [hs, replaceSlash, String.toList_ofList, show ("/" : String).toList = ['/'] by decide]; rfl
  rw [replaceSlash_append, replaceSlash_append, replaceSlash_free _ _ ha, replaceSlash_free _ _ hb, this]

/-- **Delete-by-key addresses exactly the file written by-meta** (names contain no `/`). -/
theorem key_meta_agree (ns name : String) (h1 : Free '/' ns) (h2 : Free '/' name) :
    ingFileKey (ns ++ "/" ++ name) = ingFile ns name ∧
    vsFileKey (ns ++ "/" ++ name) = vsFile ns name ∧
    tsFileKey (ns ++ "/" ++ name) = tsFile ns name := by
  have h_ := replaceSlash_join ns name "_" '_' (by decide) h1 h2
  refine ⟨replaceSlash_join ns name "-" '-' (by decide) h1 h2, ?_, ?_⟩
  · unfold vsFileKey vsFile; rw [h_, ← String.append_assoc, ← String.append_assoc]
  · unfold tsFileKey tsFile; rw [h_, ← String.append_assoc, ← String.append_assoc]

/-! ### what one operation does to each part of the state -/

/-- `deleteTransportServer` in one equation (erasing a key that is not registered changes nothing). -/
theorem delTs_eq (s : St) (key : String) : delTs s key =
    { s with stream := s.stream.erase (tsFileKey key), pairs := s.pairs.erase key,
             ptFile := if s.pairs.contains key then some (renderPt (s.pairs.erase key)) else s.ptFile } := by
  simp only [delTs]; split
  · rfl
  · next h => rw [Map.erase_of_not_contains s.pairs key (Bool.eq_false_iff.mpr h)]

/-- The hosts file on disk is the rendering of the registered passthrough pairs. -/
def PtOk (s : St) : Prop := s.ptFile = some (renderPt s.pairs)

theorem delTs_ptOk (s : St) (key : String) (h : s.pairs.contains key = true ∨ PtOk s) : PtOk (delTs s key) :=
  iteInduction (fun _ => rfl) h.resolve_left

theorem addTs_files (s : St) (ns name : String) (uid : Nat) (host : String) :
    (step s (.addTs ns name uid host)).conf = s.conf ∧
    (step s (.addTs ns name uid host)).stream = s.stream.set (tsFile ns name) uid := by
  simp only [step, apply_ite St.conf, apply_ite St.stream, ite_self, and_self]

theorem foldl_delTs_conf (keys : List String) (s : St) : (keys.foldl delTs s).conf = s.conf :=
  List.foldlRecOn keys delTs (motive := fun t => t.conf = s.conf) rfl fun t ht k _ => by rw [delTs_eq]; exact ht

theorem foldl_delTs_stream (keys : List String) (s : St) :
    (keys.foldl delTs s).stream = keys.foldl (fun m k => m.erase (tsFileKey k)) s.stream :=
  (List.foldl_hom St.stream fun t k => by rw [delTs_eq]).symm

theorem foldl_delTs_pairs (keys : List String) (s : St) :
    (keys.foldl delTs s).pairs = keys.foldl (fun m k => m.erase k) s.pairs :=
  (List.foldl_hom St.pairs fun t k => by rw [delTs_eq]).symm

theorem step_ptOk (s : St) (op : Op) (h : PtOk s) : PtOk (step s op) := by
  cases op with
  | addTs ns name uid host =>
    -- a passthrough host registered or dropped: the file is rendered anew; otherwise nothing changes
    exact iteInduction (fun _ => rfl) fun _ => iteInduction (fun _ => rfl) fun _ => h
  | delTs key => exact delTs_ptOk s key (.inr h)
  | batchTs keys => exact List.foldlRecOn keys delTs h fun t ht k _ => delTs_ptOk t k (.inr ht)
  | restart => rfl
  | _ => exact h

/-! ### the directory as a function of the operation history -/

/-- What one operation does to the file `f` of conf.d, given what was there. -/
def confEffect (f : String) (cur : Option Nat) : Op → Option Nat
  | .addIng ns name uid => if f = ingFile ns name then some uid else cur
  | .addVs ns name uid => if f = vsFile ns name then some uid else cur
  | .delIng key => if f = ingFileKey key then none else cur
  | .delVs key => if f = vsFileKey key then none else cur
  | .batchIng keys => if f ∈ keys.map ingFileKey then none else cur
  | .batchVs keys => if f ∈ keys.map vsFileKey then none else cur
  | _ => cur

/-- …and to the file `f` of stream-conf.d. -/
def streamEffect (f : String) (cur : Option Nat) : Op → Option Nat
  | .addTs ns name uid _ => if f = tsFile ns name then some uid else cur
  | .delTs key => if f = tsFileKey key then none else cur
  | .batchTs keys => if f ∈ keys.map tsFileKey then none else cur
  | _ => cur

theorem step_conf (s : St) (op : Op) (f : String) : (step s op).conf.get? f = confEffect f (s.conf.get? f) op := by
  cases op with
  | addIng ns name uid | addVs ns name uid => exact Map.get?_set _ _ _ _
  | delIng key | delVs key => exact Map.get?_erase _ _ _
  | batchIng keys => exact Map.get?_foldl_erase ingFileKey keys s.conf f
  | batchVs keys => exact Map.get?_foldl_erase vsFileKey keys s.conf f
  | addTs ns name uid host => exact congrArg (Map.get? · f) (addTs_files s ns name uid host).1
  | delTs key => exact congrArg (·.conf.get? f) (delTs_eq s key)
  | batchTs keys => exact congrArg (Map.get? · f) (foldl_delTs_conf keys s)
  | restart => rfl

theorem step_stream (s : St) (op : Op) (f : String) : (step s op).stream.get? f = streamEffect f (s.stream.get? f) op := by
  cases op with
  | addTs ns name uid host => exact (congrArg (Map.get? · f) (addTs_files s ns name uid host).2).trans (Map.get?_set _ _ _ _)
  | delTs key => exact (congrArg (·.stream.get? f) (delTs_eq s key)).trans (Map.get?_erase _ _ _)
  | batchTs keys => exact (congrArg (Map.get? · f) (foldl_delTs_stream keys s)).trans (Map.get?_foldl_erase tsFileKey keys _ f)
  | _ => rfl

/-! ### operations touch exactly their own file -/

/-- Adding a VirtualServer writes its own file with its own content and leaves every other file alone. -/
theorem addVs_exact (s : St) (ns name : String) (uid : Nat) (f : String) :
    (step s (.addVs ns name uid)).conf.get? f = if f = vsFile ns name then some uid else s.conf.get? f :=
  step_conf s _ f

theorem addIng_exact (s : St) (ns name : String) (uid : Nat) (f : String) :
    (step s (.addIng ns name uid)).conf.get? f = if f = ingFile ns name then some uid else s.conf.get? f :=
  step_conf s _ f

/-- **Deleting a resource removes its file and nothing else.** -/
theorem delVs_exact (s : St) (key : String) (f : String) :
    (step s (.delVs key)).conf.get? f = if f = vsFileKey key then none else s.conf.get? f :=
  step_conf s _ f

theorem delIng_exact (s : St) (key : String) (f : String) :
    (step s (.delIng key)).conf.get? f = if f = ingFileKey key then none else s.conf.get? f :=
  step_conf s _ f

theorem delTs_exact (s : St) (key : String) (f : String) :
    (step s (.delTs key)).stream.get? f = if f = tsFileKey key then none else s.stream.get? f :=
  step_stream s _ f

/-- Operations on one directory never touch the other. -/
theorem dirs_independent (s : St) (ns name key : String) (uid : Nat) (host : String) :
    (step s (.addTs ns name uid host)).conf = s.conf ∧ (step s (.delTs key)).conf = s.conf ∧
    (step s (.addVs ns name uid)).stream = s.stream ∧ (step s (.delVs key)).stream = s.stream ∧
    (step s (.addIng ns name uid)).stream = s.stream ∧ (step s (.delIng key)).stream = s.stream :=
  ⟨(addTs_files s ns name uid host).1, (congrArg St.conf (delTs_eq s key) :), rfl, rfl, rfl, rfl⟩

/-- **The TLS-passthrough hosts file lists exactly the registered passthrough pairs** whenever a
TransportServer operation changes them: here the add of a passthrough TransportServer; its delete and its
re-typing to a TCP/UDP listener are `passthrough_removed_on_delete` and `passthrough_removed_on_retype`. -/
theorem passthrough_map_exact (s : St) (ns name : String) (uid : Nat) (host : String) (h : host ≠ "") :
    (step s (.addTs ns name uid host)).ptFile = some (renderPt (step s (.addTs ns name uid host)).pairs) ∧
    (step s (.addTs ns name uid host)).pairs.get? (ns ++ "/" ++ name) = some (host, ns ++ "_" ++ name) := by
  simp only [step, if_pos h, true_and]
  exact Map.get?_set_self _ _ _

theorem passthrough_removed_on_delete (s : St) (key : String) (h : s.pairs.contains key = true) :
    (step s (.delTs key)).pairs.get? key = none ∧
    (step s (.delTs key)).ptFile = some (renderPt (step s (.delTs key)).pairs) :=
  ⟨(congrArg (·.pairs.get? key) (delTs_eq s key)).trans (Map.get?_erase_self _ _), delTs_ptOk s key (.inl h)⟩

/-- **The batch path (`UpdateTransportServers(nil, keys)`, taken when a namespace stops being watched) removes exactly what the
single delete removes**: every listed TransportServer's stream file and passthrough host are gone afterwards, and the hosts file
still is the rendering of the registered pairs — for every list of keys (seed C10-5). -/
theorem batchTs_removes (s : St) (keys : List String) (h : PtOk s) :
    PtOk (step s (.batchTs keys)) ∧
    (∀ k ∈ keys, (step s (.batchTs keys)).pairs.get? k = none ∧ (step s (.batchTs keys)).stream.get? (tsFileKey k) = none) := by
  refine ⟨step_ptOk s _ h, fun k hk => ⟨?_, ?_⟩⟩
  · exact (congrArg (Map.get? · k) (foldl_delTs_pairs keys s)).trans
      ((Map.get?_foldl_erase id keys _ k).trans (if_pos (by rwa [List.map_id])))
  · exact (step_stream s _ _).trans (if_pos (List.mem_map_of_mem hk))

theorem batchTs_is_iterated_delete (s : St) (keys : List String) :
    step s (.batchTs keys) = keys.foldl (fun t k => step t (.delTs k)) s := rfl

theorem passthrough_removed_on_retype (s : St) (ns name : String) (uid : Nat)
    (h : s.pairs.contains (ns ++ "/" ++ name) = true) :
    (step s (.addTs ns name uid "")).pairs.get? (ns ++ "/" ++ name) = none := by
  simp only [step, ne_eq, not_true_eq_false, if_false, if_pos h]
  exact Map.get?_erase_self _ _

/-- **Restart (finding S-C10-b)**: the process forgets what it serves, the volume does not —
nothing on the start-up path removes files. -/
theorem restart_keeps_files (s : St) :
    (step s .restart).conf = s.conf ∧ (step s .restart).stream = s.stream ∧ (step s .restart).ptFile = some [] ∧
    (step s .restart).pairs = [] := ⟨rfl, rfl, rfl, rfl⟩

/-- **The content of every file of conf.d and of stream-conf.d is a function of the operations that name that very file** — for
every operation sequence (restarts included: they touch no file) and every file name: the file holds the resource of the last
add that maps to its name, and is absent if a delete that maps to its name came later or no add ever did. Together with the
injectivity of the VirtualServer / TransportServer file names (`vs_name_inj`, `ts_name_inj`, `key_meta_agree`,
`kinds_disjoint`) this is "one file per served resource, carrying that resource, and no other file"; for Ingress names it is
exactly as far as `ing_name_inj_nodash` goes (S-C10-a). -/
theorem files_eq_served (ops : List Op) (s : St) (f : String) :
    (run s ops).conf.get? f = ops.foldl (confEffect f) (s.conf.get? f) ∧
    (run s ops).stream.get? f = ops.foldl (streamEffect f) (s.stream.get? f) :=
  ⟨(List.foldl_hom (fun t : St => t.conf.get? f) fun t op => (step_conf t op f).symm).symm,
   (List.foldl_hom (fun t : St => t.stream.get? f) fun t op => (step_stream t op f).symm).symm⟩

/-- Corollary, for conf.d: starting from empty directories, a file exists only if some operation of the history is an add that maps to its name. -/
theorem no_file_without_add (ops : List Op) (f : String)
    (h : ∀ op ∈ ops, (∀ ns name uid, op = .addIng ns name uid → f ≠ ingFile ns name) ∧ (∀ ns name uid, op = .addVs ns name uid → f ≠ vsFile ns name)) :
    (run {} ops).conf.get? f = none := by
  rw [(files_eq_served ops {} f).1]
  refine List.foldlRecOn ops (confEffect f) (motive := (· = none)) rfl fun cur hc op hop => ?_
  subst hc
  cases op with
  | addIng ns name uid => unfold confEffect; exact if_neg ((h _ hop).1 ns name uid rfl)
  | addVs ns name uid => unfold confEffect; exact if_neg ((h _ hop).2 ns name uid rfl)
  | delIng _ | delVs _ | batchIng _ | batchVs _ => unfold confEffect; exact ite_self _
  | _ => rfl

/-! ### non-vacuity -/
example : (run {} [.addVs "a" "b" 1, .addVs "a-b" "c" 2, .delVs "a/b"]).conf = [("vs_a-b_c", 2)] := by decide
example : (run {} [.addIng "a-b" "c" 1, .addIng "a" "b-c" 2]).conf = [("a-b-c", 2)] := by decide   -- S-C10-a

end Nic.Files
