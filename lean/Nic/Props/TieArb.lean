/-
  Tie (translated source ↔ model) for the arbitration family C01–C05.

  `Nic.Gen.Fns` is written by tools/gofn from /repo's Go source on every run. The theorems below say that the functions as the
  source has them *now* are the functions the arbitration model (Nic/Model/Arb.lean) uses, and re-prove the order facts of C01
  directly about the translated comparison. An edit of one of these Go functions that changes its meaning makes the theorem of
  that name fail (a broken obligation; the correspondence run then looks for the input).
-/
import Nic.Gen.Fns
import Nic.Model.Arb
import Nic.Lemmas.Beats

namespace Nic.TieArb
open Nic.Go Nic.Gen.Fns Nic.Arb

/-- How an API object's metadata is seen by the model: UIDs through any order embedding into the numbers (the model and the
harness use numbers / fixed-width strings), creation time and generation as naturals. -/
def absMeta (rank : String → Nat) (ann : StrMap → String) (m : ObjectMeta) : Meta :=
  { ns := m.Namespace, name := m.Name, uid := rank m.UID, ts := m.CreationTimestamp.t.toNat, gen := m.Generation.toNat,
    ann := ann m.Annotations }

/-- `rank` embeds the string order of UIDs. -/
def OrderEmbedding (rank : String → Nat) : Prop := ∀ a b : String, a < b ↔ rank a < rank b

/-- The translated comparison, in the form of its two cases. -/
theorem winner_iff (m1 m2 : ObjectMeta) :
    K8sConfiguration.chooseObjectMetaWinner m1 m2 = true ↔
      (m1.CreationTimestamp.t = m2.CreationTimestamp.t ∧ m2.UID < m1.UID) ∨ m1.CreationTimestamp.t < m2.CreationTimestamp.t := by
  simp only [K8sConfiguration.chooseObjectMetaWinner, Id.run, Time.Equal, Time.Before, beq_iff_eq, pure, gt_iff_lt]
  by_cases hts : m1.CreationTimestamp.t = m2.CreationTimestamp.t
  · simp [hts]
  · simp [hts]

/-- `chooseObjectMetaWinner` as it is in the source equals the model's `beats`. -/
theorem winner_is_beats (rank : String → Nat) (ann) (hr : OrderEmbedding rank) (m1 m2 : ObjectMeta)
    (h1 : 0 ≤ m1.CreationTimestamp.t) (h2 : 0 ≤ m2.CreationTimestamp.t) :
    K8sConfiguration.chooseObjectMetaWinner m1 m2 = beats (absMeta rank ann m1) (absMeta rank ann m2) := by
  rw [Bool.eq_iff_iff, winner_iff, beats_iff, hr]
  simp only [absMeta]
  omega

/-- C01's "fixed order", about the source's own comparison: never both ways (`winner_asymm`), one way for distinct UIDs
(`winner_total`), transitive (`winner_trans`). -/
theorem winner_asymm (m1 m2 : ObjectMeta) (h : K8sConfiguration.chooseObjectMetaWinner m1 m2 = true) :
    K8sConfiguration.chooseObjectMetaWinner m2 m1 = false := by
  rw [Bool.eq_false_iff]; intro h'
  rw [winner_iff] at h h'
  rcases h with ⟨e, u⟩ | l <;> rcases h' with ⟨e', u'⟩ | l'
  · exact String.lt_asymm u u'
  · omega
  · omega
  · omega

theorem winner_total (m1 m2 : ObjectMeta) (hne : m1.UID ≠ m2.UID) :
    K8sConfiguration.chooseObjectMetaWinner m1 m2 = true ∨ K8sConfiguration.chooseObjectMetaWinner m2 m1 = true := by
  rw [winner_iff, winner_iff]
  rcases Int.lt_trichotomy m1.CreationTimestamp.t m2.CreationTimestamp.t with h | h | h
  · exact .inl (.inr h)
  · rcases Std.lt_trichotomy m1.UID m2.UID with u | u | u
    · exact .inr (.inl ⟨h.symm, u⟩)
    · exact absurd u hne
    · exact .inl (.inl ⟨h, u⟩)
  · exact .inr (.inr h)

theorem winner_trans (a b c : ObjectMeta) (h1 : K8sConfiguration.chooseObjectMetaWinner a b = true)
    (h2 : K8sConfiguration.chooseObjectMetaWinner b c = true) : K8sConfiguration.chooseObjectMetaWinner a c = true := by
  rw [winner_iff] at *
  rcases h1 with ⟨e1, u1⟩ | l1 <;> rcases h2 with ⟨e2, u2⟩ | l2
  · left; exact ⟨e1.trans e2, String.lt_trans u2 u1⟩
  · right; omega
  · right; omega
  · right; omega

theorem rank_injective (rank : String → Nat) (hr : OrderEmbedding rank) (a b : String) (h : rank a = rank b) : a = b := by
  have h1 : ¬ a < b := fun hlt => by have := (hr a b).mp hlt; omega
  have h2 : ¬ b < a := fun hlt => by have := (hr b a).mp hlt; omega
  exact String.le_antisymm (String.not_lt.mp h2) (String.not_lt.mp h1)

/-- The attribute equality `IsEqual` starts from. -/
theorem compareObjectMetas_is_metaEq (rank ann) (hr : OrderEmbedding rank) (m1 m2 : ObjectMeta)
    (h1 : 0 ≤ m1.Generation) (h2 : 0 ≤ m2.Generation) :
    K8sConfiguration.compareObjectMetas m1 m2 = metaEq (absMeta rank ann m1) (absMeta rank ann m2) := by
  -- namespace and name are compared as they are; UID and generation through their abstractions
  have u : (m1.UID == m2.UID) = decide (rank m1.UID = rank m2.UID) :=
    decide_eq_decide.mpr ⟨congrArg rank, rank_injective rank hr _ _⟩
  have g : (m1.Generation == m2.Generation) = decide (m1.Generation.toNat = m2.Generation.toNat) :=
    decide_eq_decide.mpr (by omega)
  simp only [K8sConfiguration.compareObjectMetas, u, g]
  rfl

/-- with annotations: equal annotation maps are seen as equal by any abstraction of them; and for an injective abstraction the
translated function is exactly the model's `metaEqAnn`. -/
theorem compareWithAnnotations_is_metaEqAnn (rank) (hr : OrderEmbedding rank) (ann : StrMap → String)
    (hinj : ∀ a b, ann a = ann b → a = b) (m1 m2 : ObjectMeta) (h1 : 0 ≤ m1.Generation) (h2 : 0 ≤ m2.Generation) :
    K8sConfiguration.compareObjectMetasWithAnnotations m1 m2 = metaEqAnn (absMeta rank ann m1) (absMeta rank ann m2) := by
  have a : (m1.Annotations == m2.Annotations) = decide (ann m1.Annotations = ann m2.Annotations) := by
    rw [Bool.eq_iff_iff, beq_iff_eq, decide_eq_true_iff]
    exact ⟨congrArg ann, hinj _ _⟩
  simp only [K8sConfiguration.compareObjectMetasWithAnnotations, compareObjectMetas_is_metaEq rank ann hr m1 m2 h1 h2, a]
  rfl

/-- **resource keys**: `getResourceKey` is the model's `Meta.key`; the kind-qualified key is `kind/ns/name`. -/
theorem getResourceKey_is_key (rank ann) (m : ObjectMeta) : K8sConfiguration.getResourceKey m = (absMeta rank ann m).key := rfl

theorem getResourceKeyWithKind_eq (kind : String) (m : ObjectMeta) :
    K8sConfiguration.getResourceKeyWithKind kind m = kind ++ "/" ++ m.Namespace ++ "/" ++ m.Name := rfl

/-- **mergeable kinds are exclusive**: an Ingress is never both master and minion, whatever its annotations. -/
theorem master_minion_exclusive (ing : Ingress) : ¬ (K8sUtils.isMaster ing = true ∧ K8sUtils.isMinion ing = true) := by
  simp only [K8sUtils.isMaster, K8sUtils.isMinion, beq_iff_eq]
  intro ⟨h1, h2⟩
  rw [h1] at h2
  exact absurd h2 (by decide)

/-- how the model's Ingress kind is read off the object -/
def kindOf (ing : Ingress) : IngKind :=
  if K8sUtils.isMaster ing then .master else if K8sUtils.isMinion ing then .minion else .regular

theorem kindOf_by_annotation (ing : Ingress) :
    kindOf ing = (match Go.idx ing.ObjectMeta.Annotations "nginx.org/mergeable-ingress-type" with
                  | "master" => IngKind.master | "minion" => IngKind.minion | _ => IngKind.regular) := by
  unfold kindOf K8sUtils.isMaster K8sUtils.isMinion
  generalize Go.idx ing.ObjectMeta.Annotations "nginx.org/mergeable-ingress-type" = v
  by_cases h1 : v = "master"
  · subst h1; rfl
  · by_cases h2 : v = "minion"
    · subst h2; rfl
    · simp only [beq_false_of_ne h1, beq_false_of_ne h2, Bool.false_eq_true, if_false]

/-- **isRegexOrExactMatch**: the path kinds for which a delegated route must have exactly one subroute are those that start with
`~` or `=`, as a test on the first character (the model's `isRegexOrExact` asks `startsWith`). -/
theorem isRegexOrExactMatch_iff (path : String) :
    ValidationVS.isRegexOrExactMatch path = (path.toList.head? == some '~' || path.toList.head? == some '=') := by
  simp only [ValidationVS.isRegexOrExactMatch, Go.hasPrefix, show ("~" : String).toList = ['~'] from rfl,
    show ("=" : String).toList = ['='] from rfl]
  cases path.toList with
  | nil => rfl
  | cons c cs =>
    simp only [List.isPrefixOf, Bool.and_true, List.head?_cons, Option.some_beq_some]
    rw [BEq.comm (a := '~'), BEq.comm (a := '=')]

/-- The key of the validator's listener table is `port/protocol`. -/
theorem generatePortProtocolKey_eq (port : Int) (proto : String) :
    ValidationGC.generatePortProtocolKey port proto = toString port ++ "/" ++ proto := rfl

/-! ### non-vacuity -/
example : K8sConfiguration.chooseObjectMetaWinner { UID := "u002", CreationTimestamp := ⟨5⟩ } { UID := "u001", CreationTimestamp := ⟨5⟩ } = true := by decide
example : K8sConfiguration.chooseObjectMetaWinner { UID := "u001", CreationTimestamp := ⟨4⟩ } { UID := "u002", CreationTimestamp := ⟨5⟩ } = true := by decide
example : kindOf { ObjectMeta := { Annotations := [("nginx.org/mergeable-ingress-type", "minion")] } } = .minion := by decide

end Nic.TieArb
