/-
  Tie (translated source ↔ model) for the naming functions of C07 (NGINX identifiers) and C10 (file names).
  The injectivity / disjointness theorems of Props/C07.lean and Props/C10.lean are stated over Nic.NamingModel and Nic.Files;
  here the Go functions as they are in /repo now (Nic.Gen.Fns, regenerated on every run) are proved equal to those models.
-/
import Nic.Gen.Fns
import Nic.Model.Naming
import Nic.Model.Files
import Nic.Props.C10

namespace Nic.TieNames
open Nic.Go Nic.Gen.Fns

theorem ofList_append (a b : List Char) : String.ofList (a ++ b) = String.ofList a ++ String.ofList b :=
  String.ofList_append

theorem ofList_toList (s : String) : String.ofList s.toList = s := String.ofList_toList

/-- `strings.ReplaceAll(s, "<c>", "<d>")` for one-character pattern and replacement is a character map. -/
theorem replaceAll_char (s : String) (c d : Char) :
    Go.replaceAll s (String.singleton c) (String.singleton d) = String.ofList (s.toList.map fun x => if x = c then d else x) := by
  simp only [Go.replaceAll, String.toList_singleton, List.map_eq_flatMap, apply_ite (fun y : Char => [y])]

theorem replaceSlash_tie (key : String) (c : Char) : Go.replaceAll key "/" (String.singleton c) = Files.replaceSlash key c :=
  replaceAll_char key '/' c

/-! ### C10: file names -/

theorem ingFile_tie (m : ObjectMeta) : Configurator.objectMetaToFileName m = Files.ingFile m.Namespace m.Name := rfl

theorem ingFileKey_tie (key : String) : Configurator.keyToFileName key = Files.ingFileKey key :=
  replaceSlash_tie key '-'

theorem vsFile_tie (vs : VirtualServer) :
    Configurator.getFileNameForVirtualServer vs = Files.vsFile vs.ObjectMeta.Namespace vs.ObjectMeta.Name := rfl

theorem tsFile_tie (ts : TransportServer) :
    Configurator.getFileNameForTransportServer ts = Files.tsFile ts.ObjectMeta.Namespace ts.ObjectMeta.Name := rfl

theorem vsFileKey_tie (key : String) : Configurator.getFileNameForVirtualServerFromKey key = Files.vsFileKey key :=
  congrArg ("vs_" ++ ·) (replaceSlash_tie key '_')

theorem tsFileKey_tie (key : String) : Configurator.getFileNameForTransportServerFromKey key = Files.tsFileKey key :=
  congrArg ("ts_" ++ ·) (replaceSlash_tie key '_')

/-- delete-by-key addresses the file written by-meta, for the functions as they are in the source -/
theorem vs_key_meta_agree (vs : VirtualServer) (h : '/' ∉ vs.ObjectMeta.Namespace.toList ∧ '/' ∉ vs.ObjectMeta.Name.toList) :
    Configurator.getFileNameForVirtualServerFromKey (Configurator.generateNamespaceNameKey vs.ObjectMeta) =
      Configurator.getFileNameForVirtualServer vs := by
  rw [vsFileKey_tie, vsFile_tie]
  exact (Files.key_meta_agree _ _ h.1 h.2).2.1

/-! ### C07: NGINX identifiers -/

theorem vsUpstream_tie (vs : VirtualServer) (up : String) :
    VirtualServerCfg.upstreamNamer_GetNameForUpstream (VirtualServerCfg.NewUpstreamNamerForVirtualServer vs) up =
      NamingModel.vsUpstream vs.ObjectMeta.Namespace vs.ObjectMeta.Name up := by
  simp only [VirtualServerCfg.upstreamNamer_GetNameForUpstream, VirtualServerCfg.NewUpstreamNamerForVirtualServer, Go.fmt, Fmt.fmt,
    NamingModel.vsUpstream, NamingModel.joinS, NamingModel.str]
  apply String.toList_inj.mp
  simp

theorem vsrUpstream_tie (vs : VirtualServer) (vsr : VirtualServerRoute) (up : String) :
    VirtualServerCfg.upstreamNamer_GetNameForUpstream (VirtualServerCfg.NewUpstreamNamerForVirtualServerRoute vs vsr) up =
      NamingModel.vsrUpstream vs.ObjectMeta.Namespace vs.ObjectMeta.Name vsr.ObjectMeta.Namespace vsr.ObjectMeta.Name up := by
  simp only [VirtualServerCfg.upstreamNamer_GetNameForUpstream, VirtualServerCfg.NewUpstreamNamerForVirtualServerRoute, Go.fmt, Fmt.fmt,
    NamingModel.vsrUpstream, NamingModel.joinS, NamingModel.str]
  apply String.toList_inj.mp
  simp

/-- an action's upstream name is the namer applied to the upstream the action names (`proxy.upstream` if set, else `pass`) -/
theorem action_upstream_tie (n : VirtualServerCfg.upstreamNamer) (a : Action) :
    VirtualServerCfg.upstreamNamer_GetNameForUpstreamFromAction n a =
      VirtualServerCfg.upstreamNamer_GetNameForUpstream n
        (match a.Proxy with | some p => if p.Upstream ≠ "" then p.Upstream else a.Pass | none => a.Pass) := by
  simp only [VirtualServerCfg.upstreamNamer_GetNameForUpstreamFromAction, VirtualServerCfg.upstreamNamer_GetNameForUpstream, Id.run,
    Go.notNil, Option.Upstream, Go.deref]
  cases hp : a.Proxy with
  | none => simp; rfl
  | some p =>
    by_cases hu : p.Upstream = "" <;> (simp [hu]; rfl)

theorem safeNsName_tie (vs : VirtualServer) :
    (VirtualServerCfg.NewVSVariableNamer vs).safeNsName = NamingModel.safeNsName vs.ObjectMeta.Namespace vs.ObjectMeta.Name := by
  refine (replaceAll_char _ '-' '_').trans ?_
  simp [NamingModel.safeNsName, NamingModel.joinS, NamingModel.str, Go.fmt, Fmt.fmt]

theorem rfc1123ToSnake_tie (s : String) :
    VirtualServerCfg.rfc1123ToSnake s = String.ofList (s.toList.map fun c => if c = '-' then '_' else c) :=
  replaceAll_char s '-' '_'

/-- further identifiers, as the source builds them now (their uniqueness follows from that of the upstream name / indices) -/
theorem statusMatchName_eq (u : String) : VirtualServerCfg.generateStatusMatchName u = u ++ "_match" := rfl

theorem statusMatchName_inj (u v : String) (h : VirtualServerCfg.generateStatusMatchName u = VirtualServerCfg.generateStatusMatchName v) :
    u = v :=
  (String.append_left_inj "_match").mp h

theorem errorPageName_eq (i j : Int) : VirtualServerCfg.generateErrorPageName i j = "@error_page_" ++ toString i ++ "_" ++ toString j := rfl

theorem dosPolicyFile_eq (ns name : String) :
    Configurator.appProtectDosPolicyFileName ns name = "/etc/nginx/dos/policies/" ++ ns ++ "_" ++ name ++ ".json" := rfl

/-! non-vacuity -/
example : VirtualServerCfg.upstreamNamer_GetNameForUpstream (VirtualServerCfg.NewUpstreamNamerForVirtualServer { ObjectMeta := { Namespace := "d", Name := "cafe" } }) "tea" = "vs_d_cafe_tea" := by decide
example : Configurator.getFileNameForVirtualServerFromKey "d/cafe" = "vs_d_cafe" := by decide

end Nic.TieNames
