import Nic.Props.C06
import Nic.Model.Naming
import Nic.Lemmas.Naming
import Nic.Lemmas.TmplSound
/-!
  C07 — generated configuration always loads: lexically well formed, no identifier defined twice.

  Part 1: identifier construction (`Nic/Model/Naming.lean`, twins of the Go namers): names built by joining
  components with a separator that cannot occur in the components are injective in the components, hence the
  VirtualServer / VirtualServerRoute / TransportServer upstream (and zone) names of distinct resources are
  distinct, and the three families are disjoint; where the separator *is* in the alphabet (Ingress upstream names,
  VariableNamer) injectivity is false, with a concrete pair (S-C07-a, S-C07-b).

  Part 2: a verified "configuration builder": directives and blocks written from token-safe words are closed
  pieces of configuration, closed pieces compose, and a closed file is well formed — for all words, all nesting
  depths, all lengths.

  Part 3: what a positive answer of the template analysis means (`template_analysis_sound`).
-/
namespace Nic.Props.C07
open Nic.NgxLex Nic.NamingModel Nic.Props.C06

/-! ## Part 1 — identifiers -/

theorem joinS_inj {α} [DecidableEq α] (sep : α) :
    ∀ (xs ys : List (List α)), xs ≠ [] → ys ≠ [] → (∀ x ∈ xs, sep ∉ x) → (∀ y ∈ ys, sep ∉ y) →
      joinS sep xs = joinS sep ys → xs = ys := by
  intro xs
  induction xs with
  | nil => intro ys h; exact absurd rfl h
  | cons x rest ih =>
    intro ys _ hys hx hy h
    cases ys with
    | nil => exact absurd rfl hys
    | cons y rest' =>
      have fx : sep ∉ x := hx x (by simp)
      have fy : sep ∉ y := hy y (by simp)
      cases rest with
      | nil =>
        cases rest' with
        | nil => simp only [joinS] at h; rw [h]
        | cons z zs =>
          simp only [joinS] at h
          exact absurd (by rw [h]; simp) fx
      | cons x2 xs2 =>
        cases rest' with
        | nil =>
          simp only [joinS] at h
          exact absurd (by rw [← h]; simp) fy
        | cons z zs =>
          simp only [joinS] at h
          obtain ⟨e1, e2⟩ := Nic.Naming.sepJoin_inj sep x y _ _ fx fy h
          have := ih (z :: zs) (by simp) (by simp) (fun a ha => hx a (by simp [ha])) (fun a ha => hy a (by simp [ha])) e2
          rw [e1, this]

/-- A name or namespace in the alphabet Kubernetes admits (DNS-1123 / DNS-1035: no `_`). -/
def NoUnderscore (s : String) : Prop := '_' ∉ s.toList

/-- Names built by joining `sep`-free components with `sep` determine their components. The injectivity and
disjointness theorems about upstream names below are this, read off the component lists. -/
theorem name_inj (sep : Char) (xs ys : List String) (hx : xs ≠ []) (hy : ys ≠ [])
    (fx : ∀ x ∈ xs, sep ∉ x.toList) (fy : ∀ y ∈ ys, sep ∉ y.toList)
    (h : str (joinS sep (xs.map String.toList)) = str (joinS sep (ys.map String.toList))) : xs = ys :=
  (List.map_inj_right fun _ _ => String.toList_injective).mp <|
    joinS_inj sep _ _ (by simpa using hx) (by simpa using hy) (by simpa using fx) (by simpa using fy) (String.ofList_injective h)

/-- Upstream (and zone) names of VirtualServers are injective in (namespace, name, upstream). -/
theorem vs_upstream_inj (ns name up ns' name' up' : String)
    (h1 : NoUnderscore ns) (h2 : NoUnderscore name) (h3 : NoUnderscore up)
    (h1' : NoUnderscore ns') (h2' : NoUnderscore name') (h3' : NoUnderscore up')
    (h : vsUpstream ns name up = vsUpstream ns' name' up') : ns = ns' ∧ name = name' ∧ up = up' := by
  unfold NoUnderscore at *
  simpa using name_inj '_' ["vs", ns, name, up] ["vs", ns', name', up'] (by simp) (by simp) (by simp [*]) (by simp [*]) h

/-- TransportServer upstream names likewise. -/
theorem ts_upstream_inj (ns name up ns' name' up' : String)
    (h1 : NoUnderscore ns) (h2 : NoUnderscore name) (h3 : NoUnderscore up)
    (h1' : NoUnderscore ns') (h2' : NoUnderscore name') (h3' : NoUnderscore up')
    (h : tsUpstream ns name up = tsUpstream ns' name' up') : ns = ns' ∧ name = name' ∧ up = up' := by
  unfold NoUnderscore at *
  simpa using name_inj '_' ["ts", ns, name, up] ["ts", ns', name', up'] (by simp) (by simp) (by simp [*]) (by simp [*]) h

/-- VirtualServerRoute upstream names are injective in all five components. -/
theorem vsr_upstream_inj (ns name ns2 name2 up ns' name' ns2' name2' up' : String)
    (h1 : NoUnderscore ns) (h2 : NoUnderscore name) (h3 : NoUnderscore ns2) (h4 : NoUnderscore name2) (h5 : NoUnderscore up)
    (h1' : NoUnderscore ns') (h2' : NoUnderscore name') (h3' : NoUnderscore ns2') (h4' : NoUnderscore name2') (h5' : NoUnderscore up')
    (h : vsrUpstream ns name ns2 name2 up = vsrUpstream ns' name' ns2' name2' up') :
    ns = ns' ∧ name = name' ∧ ns2 = ns2' ∧ name2 = name2' ∧ up = up' := by
  unfold NoUnderscore at *
  simpa using name_inj '_' ["vs", ns, name, "vsr", ns2, name2, up] ["vs", ns', name', "vsr", ns2', name2', up']
    (by simp) (by simp) (by simp [*]) (by simp [*]) h

/-- The VirtualServer and VirtualServerRoute families never meet: an upstream of a VirtualServer cannot be called
`vsr_…` because upstream names contain no `_`. -/
theorem vs_vsr_disjoint (ns name up ns' name' ns2 name2 up' : String)
    (h1 : NoUnderscore ns) (h2 : NoUnderscore name) (h3 : NoUnderscore up)
    (h1' : NoUnderscore ns') (h2' : NoUnderscore name') (h3' : NoUnderscore ns2) (h4' : NoUnderscore name2) (h5' : NoUnderscore up') :
    vsUpstream ns name up ≠ vsrUpstream ns' name' ns2 name2 up' := by
  unfold NoUnderscore at *
  intro h
  simpa using name_inj '_' ["vs", ns, name, up] ["vs", ns', name', "vsr", ns2, name2, up'] (by simp) (by simp)
    (by simp [*]) (by simp [*]) h

/-- VirtualServer and TransportServer names never meet (`vs` ≠ `ts`). -/
theorem vs_ts_disjoint (ns name up ns' name' up' : String) (h1 : NoUnderscore ns) (h2 : NoUnderscore name)
    (h3 : NoUnderscore up) (h1' : NoUnderscore ns') (h2' : NoUnderscore name') (h3' : NoUnderscore up') :
    vsUpstream ns name up ≠ tsUpstream ns' name' up' := by
  unfold NoUnderscore at *
  intro h
  simpa using name_inj '_' ["vs", ns, name, up] ["ts", ns', name', up'] (by simp) (by simp) (by simp [*]) (by simp [*]) h

/-- S-C07-a: Ingress upstream names join their components with `-`, which names, namespaces and hosts may contain:
two different Ingresses (different names, different hosts, both active) define the same `upstream`. -/
theorem ing_upstream_not_injective :
    ingUpstream "a" "b" "x-y.ex" "svc" "80" = ingUpstream "a" "b-x" "y.ex" "svc" "80" ∧ ("b", "x-y.ex") ≠ ("b-x", "y.ex") :=
  ⟨congrArg str (by decide), by decide⟩

/-- The full-strength statement is false; what does hold: injective when no component contains `-`. -/
theorem ing_upstream_inj_partial (ns name host svc port ns' name' host' svc' port' : String)
    (hf : ∀ s ∈ [ns, name, host, svc, port, ns', name', host', svc', port'], '-' ∉ s.toList)
    (h : ingUpstream ns name host svc port = ingUpstream ns' name' host' svc' port') :
    ns = ns' ∧ name = name' ∧ host = host' ∧ svc = svc' ∧ port = port' := by
  simpa using name_inj '-' [ns, name, host, svc, port] [ns', name', host', svc', port'] (by simp) (by simp)
    (fun x hx => hf x (List.mem_append_left _ hx)) (fun x hx => hf x (List.mem_append_right [ns, name, host, svc, port] hx)) h

/-- S-C07-b: VariableNamer maps `-` to `_` before joining with `_`: `a-b/c` and `a/b-c` get the same variable and
key-value zone names. -/
theorem safeNsName_not_injective : safeNsName "a-b" "c" = safeNsName "a" "b-c" ∧ ("a-b", "c") ≠ ("a", "b-c") :=
  ⟨congrArg str (by decide), by decide⟩

/-! ## Part 2 — a verified configuration builder -/

/-- A piece of configuration that can stand wherever a directive can: read between tokens with no pending
arguments, it brings the tokenizer back to exactly the state it started in, without an error. -/
def Closed (t : List Char) : Prop :=
  ∀ s : St, s.mode = .space → s.nargs = 0 → s.esc = false → s.var = false → s.err = false →
    ∃ evs, run s t = (s, evs) ∧ Ev.err ∉ evs

theorem closed_nil : Closed [] := fun s _ _ _ _ _ => ⟨[], rfl, by simp⟩

theorem closed_append (a b : List Char) (ha : Closed a) (hb : Closed b) : Closed (a ++ b) := by
  intro s h1 h2 h3 h4 h5
  obtain ⟨e1, r1, n1⟩ := ha s h1 h2 h3 h4 h5
  obtain ⟨e2, r2, n2⟩ := hb s h1 h2 h3 h4 h5
  refine ⟨e1 ++ e2, ?_, ?_⟩
  · rw [run_append, r1]; simp [r2]
  · simp [n1, n2]

/-- A directive may begin in the states `{ depth := d }`, and a closed text is one that may be written there in the
sense of the template analysis. -/
theorem closed_iff (t : List Char) : Closed t ↔ ∀ d, Nic.Tmpl.FragVal { depth := d } t := by
  constructor
  · intro h d
    exact h { depth := d } rfl rfl rfl rfl rfl
  · intro h ⟨m, e, v, n, d, r⟩ h1 h2 h3 h4 h5
    cases h1; cases h2; cases h3; cases h4; cases h5
    exact h d

/-- White space between directives. -/
theorem closed_ws (c : Char) (h : isWs c = true) : Closed [c] :=
  (closed_iff [c]).mpr fun d => ⟨[], by simp [run_cons, run_nil, step, h], by simp⟩

theorem closed_wellFormed (t : List Char) (h : Closed t) : wellFormed t = true := by
  obtain ⟨evs, r, _⟩ := h init rfl rfl rfl rfl rfl
  unfold wellFormed
  rw [r]; rfl

/-- `w₁ w₂ … wₙ;` — a directive written from token-safe words. -/
def renderDir : List (List Char) → List Char
  | [] => []
  | [w] => w ++ [';']
  | w :: rest => w ++ [' '] ++ renderDir rest

/-- `w₁ … wₙ { body }` -/
def renderBlock (head : List (List Char)) (body : List Char) : List Char :=
  match head with
  | [] => []
  | _ => (renderDir head).dropLast ++ " {".toList ++ body ++ ['}']

/-- `w w₁ … wₙ`: what a directive and the head of a block begin with. -/
def words (w : List Char) : List (List Char) → List Char
  | [] => w
  | w' :: rest => w ++ ' ' :: words w' rest

theorem renderDir_eq (w : List Char) (rest : List (List Char)) : renderDir (w :: rest) = words w rest ++ [';'] := by
  induction rest generalizing w with
  | nil => rfl
  | cons w' rest ih => simp [renderDir, words, ih]

theorem renderBlock_eq (w : List Char) (rest : List (List Char)) (body : List Char) :
    renderBlock (w :: rest) body = words w rest ++ " {".toList ++ body ++ ['}'] := by
  simp [renderBlock, renderDir_eq]

/-- Token-safe words separated by spaces, read between tokens: all but the last have become arguments, the last is
still open. -/
theorem run_words (w : List Char) (rest : List (List Char)) (hall : ∀ x ∈ w :: rest, TokenSafe x) (n d : Nat) :
    run { nargs := n, depth := d } (words w rest) = ({ mode := .word, nargs := rest.length + n, depth := d }, []) := by
  induction rest generalizing w n with
  | nil =>
    rw [List.length_nil, Nat.zero_add]
    exact token_hole_inert _ w rfl rfl rfl rfl (hall w (by simp))
  | cons w' rest ih =>
    -- the space after `w` makes it an argument
    have sp : step { mode := .word, nargs := n, depth := d } ' ' = ({ nargs := n + 1, depth := d }, []) := rfl
    rw [words, run_append, token_hole_inert { nargs := n, depth := d } w rfl rfl rfl rfl (hall w (by simp)), run_cons, sp,
      ih w' (fun x hx => hall x (List.mem_cons_of_mem _ hx))]
    simp; omega

/-- A directive written from token-safe words is a closed piece of configuration — whatever the words. -/
theorem closed_renderDir (ws : List (List Char)) (hne : ws ≠ []) (hall : ∀ w ∈ ws, TokenSafe w) : Closed (renderDir ws) := by
  cases ws with
  | nil => exact absurd rfl hne
  | cons w rest =>
    refine (closed_iff _).mpr fun d => ⟨[.dir (rest.length + 1)], ?_, by simp⟩
    rw [renderDir_eq, run_append, run_words w rest hall 0 d]
    rfl -- the `;` ends the last word and the directive

/-- A block whose head is written from token-safe words and whose body is closed is closed: braces balance at
every nesting depth. -/
theorem closed_renderBlock (head : List (List Char)) (body : List Char) (hne : head ≠ [])
    (hall : ∀ w ∈ head, TokenSafe w) (hb : Closed body) : Closed (renderBlock head body) := by
  cases head with
  | nil => exact absurd rfl hne
  | cons w rest =>
    refine (closed_iff _).mpr fun d => ?_
    obtain ⟨evs, rb, nb⟩ := (closed_iff body).mp hb (d + 1)
    refine ⟨.opn (rest.length + 1) :: (evs ++ [.cls]), ?_, by simp [nb]⟩
    -- the space ends the last word and `{` opens the block; the body returns to where it began; `}` closes the block
    have op : ∀ k, run { mode := .word, nargs := k, depth := d } " {".toList = ({ depth := d + 1 }, [.opn (k + 1)]) :=
      fun _ => rfl
    have cl : run { depth := d + 1 } ['}'] = ({ depth := d }, [.cls]) := rfl
    rw [renderBlock_eq, run_append, run_append, run_append, run_words w rest hall 0 d, op, rb, cl]
    rfl

/-- The builder theorems compose: `server { listen 80; location /a { proxy_pass http://u; } }`, for *any* token-safe
words in place of these, is well formed. -/
theorem example_server_wellFormed (port path target : List Char) (hp : TokenSafe port) (ha : TokenSafe path) (ht : TokenSafe target) :
    wellFormed (renderBlock ["server".toList]
      (renderDir ["listen".toList, port] ++ renderBlock ["location".toList, path] (renderDir ["proxy_pass".toList, target]))) = true := by
  have hserver : TokenSafe "server".toList := ⟨_, _, rfl, by decide, by decide⟩
  have hlisten : TokenSafe "listen".toList := ⟨_, _, rfl, by decide, by decide⟩
  have hloc : TokenSafe "location".toList := ⟨_, _, rfl, by decide, by decide⟩
  have hpp : TokenSafe "proxy_pass".toList := ⟨_, _, rfl, by decide, by decide⟩
  apply closed_wellFormed
  apply closed_renderBlock _ _ (by simp) (by simpa using hserver)
  apply closed_append
  · exact closed_renderDir _ (by simp) (by simpa using ⟨hlisten, hp⟩)
  · apply closed_renderBlock _ _ (by simp) (by simpa using ⟨hloc, ha⟩)
    exact closed_renderDir _ (by simp) (by simpa using ⟨hpp, ht⟩)

example : wellFormed "server {listen 80;location /a {proxy_pass http://u;}}".toList = true := by
  simp only [String.reduceToList]
  decide
example : TokenSafe "http://vs_d_cafe_tea".toList := by
  simp only [String.reduceToList]
  exact ⟨_, _, rfl, by decide, by decide⟩
example : NoUnderscore "a-b.c" := by unfold NoUnderscore; decide
/-- what the arity rule is about (seed C07-2's shape): a directive without its argument is still lexically a
directive, with one word — the arity table, not the tokenizer, rejects it. -/
example : events "proxy_hide_header ;".toList = [.dir 1] := by
  simp only [String.reduceToList]
  decide

/-! ## Part 3 — the templates themselves

`Nic.Tmpl.wellFormedForAll t` is the analysis of `Nic/Model/Tmpl.lean` run on a template term regenerated from /repo
(`Nic/Gen/Templates.lean`); on every run of the check the compiled driver evaluates it for the eight templates. The
theorem says what a positive answer means. -/

/-- If the analysis accepts a template, then **every** file the template can produce — any combination of `if`
branches, any number of `range` iterations, any admissible value at every interpolation site (`HoleVal`: a token-safe
word or nothing between tokens, a word-safe / quote-safe value inside a word / a quoted string; `FragVal`: a closed
piece of configuration where a helper writes whole directives) — is lexically well formed. -/
theorem template_analysis_sound (t : Nic.Tmpl.TL) (h : Nic.Tmpl.wellFormedForAll t = true) (cs : List Char)
    (hr : Nic.Tmpl.RenderTL t init cs) : wellFormed cs = true := by
  unfold Nic.Tmpl.wellFormedForAll at h
  split at h
  · rename_i ss hss
    obtain ⟨_, _, m⟩ := Nic.Tmpl.soundTL t init cs [init] ss Nic.Tmpl.good_init (by simp [Nic.Tmpl.clip, init]) hss hr
    have hok := List.all_eq_true.mp h _ m
    rwa [Nic.Tmpl.eofOk_clip] at hok
  · cases h

/-- the analysis reads literal text exactly as the tokenizer does (argument counts clipped to zero / non-zero) -/
theorem template_text_exact (cs : List Char) (s t : St) (hs : s.err = false) (h : Nic.Tmpl.runText (Nic.Tmpl.clip s) cs = some t) :
    (run s cs).1.err = false ∧ Nic.Tmpl.clip (run s cs).1 = t ∧ Ev.err ∉ (run s cs).2 :=
  Nic.Tmpl.runText_sound cs s t hs h

/-- non-vacuity: a template with a value site, and a rendering of it that satisfies `RenderTL` (the kernel
evaluates the analysis on the two TransportServer templates in `C07Tmpl.lean`; the larger ones are left to the driver). -/
def demoTmpl : Nic.Tmpl.TL := .cons (.text "a ") (.cons (.hole false "v") (.cons (.text ";") .nil))

example : Nic.Tmpl.wellFormedForAll demoTmpl = true := by decide

example : Nic.Tmpl.RenderTL demoTmpl init "a b;".toList :=
  ⟨"a ".toList, "b;".toList, rfl, rfl, "b".toList, ";".toList, rfl,
    Or.inr ⟨'b', [], rfl, by decide, by decide⟩, ";".toList, [], rfl, rfl, rfl⟩

end Nic.Props.C07
