/-
  C04 — master/minion and VirtualServer/Route composition is exactly as declared.
  Proved here: which minions attach to a master, which routes attach to a
  VirtualServer, and that the composition is a function of the object set.
  The per-path arbitration among minions (the oldest claimant serves the path) is proved in
  Props/C04Paths.lean (path_served_by_oldest_claimant).
-/
import Nic.Props.C01

namespace Nic.Arb
open Spec

/-! ### routes of a VirtualServer -/

theorem vsrFits_iff (r : VSR) (host path : String) :
    vsrFits r host path = true ↔
      r.host = host ∧ if isRegexOrExact path then r.subs = [path] else ∀ p ∈ r.subs, p.startsWith path = true := by
  unfold vsrFits
  rw [Bool.and_eq_true, decide_eq_true_eq]
  refine and_congr_right fun _ => ?_
  cases isRegexOrExact path
  · simp only [Bool.false_eq_true, if_false, List.all_eq_true]
  · simp only [if_true]
    split
    · next p h => rw [h, decide_eq_true_eq, List.singleton_inj]
    · next h => exact ⟨nofun, fun e => absurd e (h path)⟩

theorem routeOf_eq_some {vsrs : Map VSR} {v : VS} {pr : String × String} {m : Meta} :
    routeOf vsrs v pr = some m ↔
      pr.2 ≠ "" ∧ ∃ r, vsrs.get? (vsrKeyOf v pr.2) = some r ∧ vsrFits r v.host pr.1 = true ∧ r.md = m := by
  unfold routeOf
  by_cases h1 : pr.2 = ""
  · simp [h1]
  · rw [if_neg h1]
    cases vsrs.get? (vsrKeyOf v pr.2) with
    | none => simp
    | some r => cases hf : vsrFits r v.host pr.1 <;> simp [h1, hf]

/-- Keep the first occurrence of every key. -/
def firstByKey : List Meta → List Meta :=
  List.foldl (fun acc m => if acc.any (fun a => a.key = m.key) then acc else acc ++ [m]) []

/-- **A VirtualServer is rendered with exactly the VirtualServerRoutes it references that exist,
whose host equals its own and whose subroutes obey the path rule of the referencing route** —
in the order of the `route` entries, each route once (at its first fitting reference); a bare name
is resolved in the VirtualServer's namespace. -/
theorem vsrs_eq_spec (vsrs : Map VSR) (v : VS) :
    (buildVsrs vsrs v).1 = firstByKey (v.routes.filterMap (routeOf vsrs v)) ∧
    ∀ pr, routeOf vsrs v pr =
      if pr.2 = "" then none else
      match vsrs.get? (if pr.2.contains '/' then pr.2 else v.md.ns ++ "/" ++ pr.2) with
      | some r => if vsrFits r v.host pr.1 then some r.md else none
      | none => none := by
  refine ⟨?_, fun _ => rfl⟩
  -- the first component of `vsrStep` is the step of `firstByKey` on the route of the entry, if it has one
  unfold buildVsrs firstByKey
  rw [List.foldl_filterMap]
  refine (List.foldl_hom Prod.fst fun acc pr => ?_).symm
  unfold vsrStep
  cases routeOf vsrs v pr with
  | some m => dsimp only; split <;> rfl
  | none => cases routeWarnOf vsrs v pr <;> rfl

theorem mem_of_mem_firstByKey {l : List Meta} {m : Meta} (h : m ∈ firstByKey l) : m ∈ l := by
  refine List.foldlRecOn (motive := fun acc => m ∈ acc → m ∈ l) l _ (b := []) nofun (fun acc ih x hx hm => ?_) h
  split at hm
  · exact ih hm
  · exact (List.mem_append.mp hm).elim ih fun h => List.mem_singleton.mp h ▸ hx

/-- On keys, `firstByKey` is the set-insertion fold of `ListSet`. -/
theorem firstByKey_keys (l : List Meta) : (firstByKey l).map Meta.key = (l.map Meta.key).foldl insertNew [] := by
  rw [List.foldl_map]
  refine (List.foldl_hom (List.map Meta.key) fun acc m => ?_).symm
  rw [insertNew, List.contains_map, apply_ite (List.map Meta.key), List.map_append, List.map_singleton]
  simp only [Bool.beq_comm (a := m.key), Bool.beq_eq_decide_eq]

theorem firstByKey_keys_nodup (l : List Meta) : ((firstByKey l).map Meta.key).Nodup := by
  rw [firstByKey_keys]
  exact nodup_foldl_insertNew _ .nil

theorem key_mem_firstByKey {l : List Meta} {m : Meta} (h : m ∈ l) : ∃ a ∈ firstByKey l, a.key = m.key := by
  refine List.mem_map.mp ?_
  rw [firstByKey_keys, mem_foldl_insertNew]
  exact Or.inr (List.mem_map_of_mem h)

/-- **No VirtualServerRoute is attached twice** (S-C07-i: attached twice, its upstreams and locations were generated twice and
NGINX refused the file) — for every VirtualServer and every set of routes. -/
theorem attached_routes_distinct (vsrs : Map VSR) (v : VS) : ((buildVsrs vsrs v).1.map Meta.key).Nodup := by
  rw [(vsrs_eq_spec vsrs v).1]
  exact firstByKey_keys_nodup _

/-- …and every route that fits some reference is attached: de-duplication drops repetitions only. -/
theorem fitting_route_attached (vsrs : Map VSR) (v : VS) (pr : String × String) (m : Meta)
    (hpr : pr ∈ v.routes) (hm : routeOf vsrs v pr = some m) : ∃ a ∈ (buildVsrs vsrs v).1, a.key = m.key := by
  rw [(vsrs_eq_spec vsrs v).1]
  exact key_mem_firstByKey (List.mem_filterMap.mpr ⟨pr, hpr, hm⟩)

/-- Every `route` entry that does not attach produces a warning, and vice versa. -/
theorem route_attached_or_warned (vsrs : Map VSR) (v : VS) (pr : String × String) (h : pr.2 ≠ "") :
    ((routeOf vsrs v pr).isSome ∧ (routeWarnOf vsrs v pr).isNone) ∨
    ((routeOf vsrs v pr).isNone ∧ (routeWarnOf vsrs v pr).isSome) := by
  unfold routeOf routeWarnOf
  simp only [h, if_false]
  cases vsrs.get? (vsrKeyOf v pr.2) with
  | none => simp
  | some r => by_cases hf : vsrFits r v.host pr.1 = true <;> simp [hf]

/-- A route that is attached fits: equal host, and either the referencing path is an exact/regex
path and the route has exactly that one subroute, or all its subroutes lie under the path. -/
theorem attached_route_fits (vsrs : Map VSR) (v : VS) (m : Meta) (h : m ∈ (buildVsrs vsrs v).1) :
    ∃ path ref r, (path, ref) ∈ v.routes ∧ ref ≠ "" ∧
      vsrs.get? (vsrKeyOf v ref) = some r ∧ r.md = m ∧ r.host = v.host ∧
      (if isRegexOrExact path then r.subs = [path] else ∀ p ∈ r.subs, p.startsWith path = true) := by
  rw [(vsrs_eq_spec vsrs v).1] at h
  obtain ⟨⟨path, ref⟩, hm, he⟩ := List.mem_filterMap.mp (mem_of_mem_firstByKey h)
  obtain ⟨h1, r, hg, hf, hmd⟩ := routeOf_eq_some.mp he
  exact ⟨path, ref, r, hm, h1, hg, hmd, (vsrFits_iff ..).mp hf⟩

/-! ### minions of a master -/

def isMinionOf (host : String) (kv : String × Ing) : Bool :=
  isMinion kv.2 && (match kv.2.rules with | [] => false | (h, _) :: _ => host = h)

/-- `minionStep` skips everything but the minions of the host; such a minion is appended with no verdicts and
then claims the paths of its first rule, one after the other, under its index. -/
theorem minionStep_eq (host : String) (a : MinAcc) (kv : String × Ing) :
    minionStep host a kv =
      if isMinionOf host kv then
        ((kv.2.rules.head?.map (·.2)).getD []).foldl (minionPath a.cfgs.length kv.2.md)
          { a with cfgs := a.cfgs ++ [{ md := kv.2.md, validPaths := [] }] }
      else a := by
  unfold minionStep isMinionOf
  dsimp only
  cases isMinion kv.2
  · rfl
  · cases kv.2.rules with
    | nil => rfl
    | cons r _ => by_cases h : host = r.1 <;> simp [h]

theorem setValid_md (cfgs : List MinionCfg) (i : Nat) (p : String) (v : Bool) :
    (setValid cfgs i p v).map (·.md) = cfgs.map (·.md) := by
  unfold setValid
  apply List.ext_getElem
  · simp
  · intro n h1 h2
    simp only [List.getElem_map, List.getElem_mapIdx]
    split <;> rfl

theorem minionPath_md (self : Nat) (m : Meta) (a : MinAcc) (p : String) :
    (minionPath self m a p).cfgs.map (·.md) = a.cfgs.map (·.md) := by
  unfold minionPath
  repeat' split
  all_goals simp [setValid_md]

theorem foldl_minionPath_md (ps : List String) (self : Nat) (m : Meta) (a : MinAcc) :
    (ps.foldl (minionPath self m) a).cfgs.map (·.md) = a.cfgs.map (·.md) :=
  List.foldlRecOn (motive := fun a' => a'.cfgs.map (·.md) = a.cfgs.map (·.md)) ps _ rfl
    fun a' h p _ => (minionPath_md self m a' p).trans h

theorem minionStep_md (host : String) (a : MinAcc) (kv : String × Ing) :
    (minionStep host a kv).cfgs.map (·.md) =
      a.cfgs.map (·.md) ++ (if isMinionOf host kv then [kv.2.md] else []) := by
  rw [minionStep_eq]
  split
  · rw [foldl_minionPath_md, List.map_append]; rfl
  · exact (List.append_nil _).symm

theorem foldl_minionStep_md (host : String) (l : List (String × Ing)) (a : MinAcc) :
    (l.foldl (minionStep host) a).cfgs.map (·.md) =
      a.cfgs.map (·.md) ++ (l.filter (isMinionOf host)).map (·.2.md) := by
  induction l generalizing a with
  | nil => simp
  | cons kv r ih =>
    rw [List.foldl_cons, ih, minionStep_md, List.filter_cons]
    split <;> simp

/-- **A master is rendered together with exactly the stored (valid, own-class) minions whose first
rule's host is the master's host**, in key order — no other Ingress attaches, and none is left out. -/
theorem minions_eq_spec (ings : Map Ing) (host : String) :
    (buildMinions ings host).1.map (·.md) = (ings.filter (isMinionOf host)).map (·.2.md) :=
  foldl_minionStep_md host ings {}

/-- **The composition depends only on the current object set.** Minions, their path verdicts and
attached routes live inside the resource snapshots of the host table, which after any history equals
`hostsOf` of the final object set (C01's invariant). -/
theorem composition_history_independent (p₁ p₂) (cfg : Cfg) (h₁ h₂ : List Op)
    (he : (run p₁ { toObjs := { cfg := cfg } } h₁).toObjs = (run p₂ { toObjs := { cfg := cfg } } h₂).toObjs)
    (host : String) :
    (run p₁ { toObjs := { cfg := cfg } } h₁).hosts.get? host = (run p₂ { toObjs := { cfg := cfg } } h₂).hosts.get? host := by
  rw [history_independent p₁ p₂ cfg h₁ h₂ he]

/-! ### non-vacuity -/

private def mV : Meta := { ns := "d", name := "v", uid := 1, ts := 1, gen := 1 }
private def mR1 : Meta := { ns := "d", name := "r1", uid := 2, ts := 1, gen := 1 }
private def mR2 : Meta := { ns := "e", name := "r2", uid := 3, ts := 1, gen := 1 }
private def vX : VS := { md := mV, host := "a.ex", routes := [("/r", "r1"), ("=/e", "e/r2"), ("/s", "nope")], listener := none }
private def r1 : VSR := { md := mR1, host := "a.ex", subs := ["/r/a", "/r/b"] }
private def r2 : VSR := { md := mR2, host := "a.ex", subs := ["=/e"] }
private def rs : Map VSR := [("d/r1", r1), ("e/r2", r2)]

example : routeOf rs vX ("", "") = none := rfl
-- a route referenced twice (by name and by namespace/name) is attached once, with a warning
example : (buildVsrs rs { vX with routes := [("/r", "r1"), ("/", "d/r1")] }).1.length = 1 ∧
    (buildVsrs rs { vX with routes := [("/r", "r1"), ("/", "d/r1")] }).2 = [wVsrDuplicate "d/r1"] := by
  simp [buildVsrs, vsrStep, routeOf, vX, rs, r1, r2, vsrKeyOf, Map.get?, vsrFits, isRegexOrExact, mV, mR1, mR2, Meta.key, wVsrDuplicate]
example : ∃ m ∈ (buildVsrs rs vX).1, m = mR1 :=
  ⟨mR1, by simp [buildVsrs, vsrStep, routeOf, routeWarnOf, vX, rs, r1, r2, vsrKeyOf, Map.get?, vsrFits, isRegexOrExact, mV, mR1, mR2, Meta.key], rfl⟩

end Nic.Arb
