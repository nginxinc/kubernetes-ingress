/-
  C16 — the controller acts only on resources of its own class.
-/
import Nic.Model.Class
import Nic.Lemmas.Quiescent

namespace Nic.Class

/-! ### the class decision, stated outright -/

/-- For an Ingress the deprecated annotation, when present and non-empty, decides alone:
the `ingressClassName` field is ignored. -/
theorem ingress_annotation_precedence (ours a : String) (field : Option String) (h : a ≠ "") :
    hasCorrectClass ours .ingress (some a) field = decide (a = ours) := by
  simp [hasCorrectClass, h]

/-- Without a (non-empty) annotation the field decides. -/
theorem ingress_field_decides (ours f : String) (ann : Option String) (h : ann = none ∨ ann = some "") :
    hasCorrectClass ours .ingress ann (some f) = decide (f = ours) := by
  rcases h with rfl | rfl <;> simp [hasCorrectClass]

/-- An Ingress that designates no class at all is never ours (the controller's class is non-empty). -/
theorem ingress_without_class_not_ours (ours : String) (h : ours ≠ "") (ann : Option String)
    (ha : ann = none ∨ ann = some "") : hasCorrectClass ours .ingress ann none = false := by
  rcases ha with rfl | rfl <;> simpa [hasCorrectClass] using h.symm

/-- Custom resources (VirtualServer, VirtualServerRoute, TransportServer, Policy): ours iff the class
field is ours or empty; annotations play no role. -/
theorem cr_class_decision (ours f : String) (k : Kind) (hk : k = .vs ∨ k = .vsr ∨ k = .ts ∨ k = .policy)
    (ann : Option String) :
    hasCorrectClass ours k ann (some f) = (decide (f = ours) || decide (f = "")) := by
  rcases hk with rfl | rfl | rfl | rfl <;> simp [hasCorrectClass]

theorem other_kinds_never_ours (ours : String) (ann field : Option String) :
    hasCorrectClass ours .other ann field = false := rfl

/-- A Policy's status is written only if the latest stored version is of our class. -/
theorem policy_status_only_own_class (ours : String) (stored : Option String)
    (h : policyStatusWrite ours stored = true) : ∃ c, stored = some c ∧ (c = ours ∨ c = "") := by
  unfold policyStatusWrite at h
  cases stored with
  | none => cases h
  | some c => exact ⟨c, rfl, by simpa [hasCorrectClass] using h⟩

end Nic.Class

namespace Nic.Arb

/-! ### a foreign-class event is a delete -/

/-- **A foreign-class object is never stored**, so it never contributes a claim on a host,
listener or path (claims are computed from the stored objects only). -/
theorem foreign_never_stored (perm) (s : State) (v : VS) (valid : Bool) :
    (step perm s (.vs v false valid)).1.vss.contains v.md.key = false := by
  rw [step_vs_foreign]; exact Map.contains_erase _ _

theorem foreign_never_stored_ing (perm) (s : State) (i : Ing) (valid : Bool) :
    (step perm s (.ing i false valid)).1.ings.contains i.md.key = false := by
  rw [step_ing_foreign]; exact Map.contains_erase _ _

/-- A foreign-class event erases the key and rebuilds (`s'`); the delete of the key skips the rebuild when
the key is absent (`c = false`).  Then the erasure changed nothing, and the rebuild of a settled state is silent. -/
theorem rebuild_eq_guarded (s s' : State) (c : Bool) (h : Settled s) (hc : c = false → s' = s) :
    rebuildHosts s' = if c then rebuildHosts s' else (s, [], []) := by
  cases c
  · rw [hc rfl]; exact rebuildHosts_settled s h
  · rfl

/-- **A foreign-class VirtualServer event is processed exactly like a delete of its key**: same
resulting state, same changes, same problems — whether or not the object was served before. -/
theorem foreign_is_delete_vs (perm) (s : State) (v : VS) (valid : Bool) (h : Settled s) :
    step perm s (.vs v false valid) = step perm s (.delVs v.md.key) :=
  (step_vs_foreign perm s v valid).trans (rebuild_eq_guarded s _ _ h fun hc => by rw [Map.erase_of_not_contains _ _ hc])

theorem foreign_is_delete_ing (perm) (s : State) (i : Ing) (valid : Bool) (h : Settled s) :
    step perm s (.ing i false valid) = step perm s (.delIng i.md.key) :=
  (step_ing_foreign perm s i valid).trans (rebuild_eq_guarded s _ _ h fun hc => by rw [Map.erase_of_not_contains _ _ hc])

theorem foreign_is_delete_vsr (perm) (s : State) (x : VSR) (valid : Bool) (h : Settled s) :
    step perm s (.vsr x false valid) = step perm s (.delVsr x.md.key) :=
  (step_vsr_foreign perm s x valid).trans (rebuild_eq_guarded s _ _ h fun hc => by rw [Map.erase_of_not_contains _ _ hc])

/-- **Silent removal.** The changes of a class-away event are exactly those of the rebuild of the object set
without the object (the second disjunct always holds): no validation error is attached, the validator is not
even run for a foreign-class object, so the only thing that can make the controller speak is a stale warning on
the removed resource (known finding S-C16-a). -/
theorem class_away_no_error (perm) (s : State) (v : VS) (valid : Bool) :
    ∀ c ∈ (step perm s (.vs v false valid)).2.1, c.err = false ∨
      c ∈ (rebuildHosts (vsState s v false valid)).2.1 :=
  fun _ hc => Or.inr (step_vs_foreign perm s v valid ▸ hc)

/-- Projection of a history: every foreign-class Ingress / VirtualServer / VirtualServerRoute event
becomes a delete of that key. -/
def project : List Op → List Op
  | [] => []
  | .ing i false _ :: r => .delIng i.md.key :: project r
  | .vs v false _ :: r => .delVs v.md.key :: project r
  | .vsr x false _ :: r => .delVsr x.md.key :: project r
  | o :: r => o :: project r

/-- Everything observable of a run: the outputs of every operation, in order. -/
def outputs (perm : List (String × TS) → List (String × TS)) : State → List Op → List (List Change × List Problem)
  | _, [] => []
  | s, op :: r => (step perm s op).2 :: outputs perm (step perm s op).1 r

theorem project_cons (perm) (s : State) (h : Settled s) (op : Op) (r : List Op) :
    ∃ op', project (op :: r) = op' :: project r ∧ step perm s op = step perm s op' := by
  match op with
  | .ing i false valid => exact ⟨_, rfl, foreign_is_delete_ing perm s i valid h⟩
  | .vs v false valid => exact ⟨_, rfl, foreign_is_delete_vs perm s v valid h⟩
  | .vsr x false valid => exact ⟨_, rfl, foreign_is_delete_vsr perm s x valid h⟩
  | .ing _ true _ | .vs _ true _ | .vsr _ true _ | .ts .. | .gc _
  | .delIng _ | .delVs _ | .delVsr _ | .delTs _ | .delGc => exact ⟨_, rfl, rfl⟩

/-- `non_interference` from every settled state: every operation re-settles the tables, also the
TransportServer operations that skip the host rebuild while TLS passthrough is off. -/
theorem project_unobservable (perm) (s : State) (ops : List Op) (h : Settled s) :
    outputs perm s ops = outputs perm s (project ops) ∧ run perm s ops = run perm s (project ops) := by
  induction ops generalizing s with
  | nil => exact ⟨rfl, rfl⟩
  | cons op r ih =>
    obtain ⟨op', hp, he⟩ := project_cons perm s h op r
    obtain ⟨i1, i2⟩ := ih _ (step_settles perm s op h)
    unfold run at i2 ⊢
    simp only [hp, outputs, List.foldl_cons]
    rw [← he, i1, i2]; exact ⟨rfl, rfl⟩

/-- **Non-interference.** A history and its projection without foreign-class events produce the
same changes and problems at every step and end in the same state — for every history, from
every settled state (the hypothesis `hp` plays no role: `project_unobservable`).
Foreign-class resources therefore never contribute configuration, never occupy a host or path,
and (via the reporting model) never receive reports other than those a delete would cause. -/
theorem non_interference (perm) (s : State) (ops : List Op) (hp : s.cfg.passthrough = true) (h : Settled s) :
    outputs perm s ops = outputs perm s (project ops) ∧ run perm s ops = run perm s (project ops) :=
  project_unobservable perm s ops h

theorem init_settled (cfg : Cfg) : Settled { toObjs := { cfg := cfg } } := settled_init cfg

end Nic.Arb
