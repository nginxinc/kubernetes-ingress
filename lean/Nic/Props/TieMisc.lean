/-
  Small decision functions of C17 (challenge Ingress) and C15 / C19 (reference resolution) as they are in /repo now
  (Nic.Gen.Fns, regenerated on every run): what they compute, stated outright.
-/
import Nic.Gen.Fns

namespace Nic.TieMisc
open Nic.Go Nic.Gen.Fns

/-- `getNsName`: a reference without a namespace is resolved in the namespace of the resource that carries it; a qualified
reference is taken as it is — never re-qualified. -/
theorem getNsName_bare (ns name : String) (h : Go.contains name "/" = false) : Dos.getNsName ns name = ns ++ "/" ++ name := by
  unfold Dos.getNsName; rw [h]; rfl

theorem getNsName_qualified (ns name : String) (h : Go.contains name "/" = true) : Dos.getNsName ns name = name := by
  unfold Dos.getNsName; rw [h]; rfl

theorem containsChars_append_left (a p r : List Char) (h : Go.containsChars r p = true) : Go.containsChars (a ++ r) p = true := by
  induction a with
  | nil => exact h
  | cons x xs ih => rw [List.cons_append, Go.containsChars, ih, Bool.or_true]

/-- resolving twice is resolving once: a resolved reference contains the separator (this is what GetValidDosEx relies on when it
resolves the protected resource's own references in the protected resource's namespace, not the referrer's) -/
theorem getNsName_idempotent (ns ns' name : String) : Dos.getNsName ns' (Dos.getNsName ns name) = Dos.getNsName ns name := by
  cases h : Go.contains name "/"
  · rw [getNsName_bare ns name h]
    apply getNsName_qualified
    unfold Go.contains
    rw [String.append_assoc, String.toList_append]
    exact containsChars_append_left _ _ _ (by simp [Go.containsChars])
  · rw [getNsName_qualified ns name h, getNsName_qualified ns' name h]

/-- `isMatchingResourceRef` (which WAF policies a changed App Protect resource reaches): a bare reference means the owner's
namespace, a qualified one is compared as it is. -/
theorem isMatchingResourceRef_bare (ns ref key : String) (h : Go.contains ref "/" = false) :
    K8sWaf.isMatchingResourceRef ns ref key = (ns ++ "/" ++ ref == key) := by
  simp only [K8sWaf.isMatchingResourceRef, h]; rfl

theorem isMatchingResourceRef_qualified (ns ref key : String) (h : Go.contains ref "/" = true) :
    K8sWaf.isMatchingResourceRef ns ref key = (ref == key) := by
  simp only [K8sWaf.isMatchingResourceRef, h]; rfl

/-- the reverse lookup agrees with the forward resolution: a reference matches exactly the key `getNsName` resolves it to
(the DoS and WAF sides use the same convention) -/
theorem matching_is_resolution (ns ref key : String) :
    K8sWaf.isMatchingResourceRef ns ref key = (Dos.getNsName ns ref == key) := by
  cases h : Go.contains ref "/"
  · rw [isMatchingResourceRef_bare ns ref key h, getNsName_bare ns ref h]
  · rw [isMatchingResourceRef_qualified ns ref key h, getNsName_qualified ns ref h]

/-- `isChallengeIngress` looks at the solver label only -/
theorem isChallenge_by_label (ing : Ingress) :
    K8sUtils.isChallengeIngress ing = (Go.idx ing.ObjectMeta.Labels "acme.cert-manager.io/http01-solver" == "true") := rfl

example : Dos.getNsName "d" "prot" = "d/prot" := by decide
example : Dos.getNsName "d" "e/prot" = "e/prot" := by decide

end Nic.TieMisc
