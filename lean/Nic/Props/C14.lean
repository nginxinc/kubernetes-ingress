/-
  C14 — upstream servers are exactly the ready endpoints of the referenced service port.
-/
import Nic.Spec.Endpoints
import Nic.Lemmas.ListSet

namespace Nic.Eps
open Spec

/-! ### the Go map used as a set (`dedupe` is `foldl insertNew`) -/

theorem dedupe_mem (l : List String) (a : String) : a ∈ dedupe l ↔ a ∈ l :=
  (mem_foldl_insertNew l [] a).trans (or_iff_right List.not_mem_nil)

/-- Every address is listed once. -/
theorem dedupe_nodup (l : List String) : (dedupe l).Nodup :=
  nodup_foldl_insertNew l List.nodup_nil

/-! ### which endpoints -/

theorem mem_selectSlices (tp : Nat) (sl : List Slice) (s : Slice) :
    s ∈ selectSlices tp sl ↔ s ∈ sl ∧ some tp ∈ s.ports := by
  simp only [selectSlices, List.mem_flatMap, List.mem_map, List.mem_filter, decide_eq_true_eq, exists_and_right,
    exists_eq_right, exists_eq_right_right]

theorem mem_readyEps (sl : List Slice) (e : Ep) :
    e ∈ readyEps sl ↔ ∃ s ∈ sl, e ∈ s.eps ∧ e.ready = some true := by
  unfold readyEps
  simp only [List.mem_flatMap, List.mem_filter, decide_eq_true_eq]

/-- The service port selected for a backend is the one the backend refers to: by number when the
reference has no name, by name otherwise — never "any unnamed port". -/
theorem refersTo_iff (bname : String) (bnum : Nat) (sp : SvcPort) :
    refersTo bname bnum sp = true ↔ Spec.Refers bname bnum sp := by
  unfold refersTo Spec.Refers
  by_cases h : bname = "" <;> simp [h]

/-- **Soundness and completeness of the server list.** Whenever the resolution succeeds it
returns, for the target port `tp` of the service port the backend refers to, *exactly* the
addresses `join(addr, tp)` of endpoints that are ready (`ready = true`; unknown and false are
excluded) in slices that carry `tp` — each once, and at least one. -/
theorem endpointsForPort_exact (slices : List Slice) (bname : String) (bnum : Nat) (svc : Svc) (pods : List Pod)
    (out : List String) (h : endpointsForPort slices bname bnum svc pods = .ok out) :
    ∃ sp tp, svc.ports.find? (refersTo bname bnum) = some sp ∧ targetPortOf sp pods = .ok tp ∧ tp ≠ 0 ∧
      out.Nodup ∧ out ≠ [] ∧
      ∀ a, a ∈ out ↔ ∃ s ∈ slices, some tp ∈ s.ports ∧ ∃ e ∈ s.eps, e.ready = some true ∧
        ∃ addr ∈ e.addrs, a = joinHostPort addr tp := by
  unfold endpointsForPort at h
  split at h
  · cases h
  next sp hf =>
  split at h
  · cases h
  next tp ht =>
  split at h
  · cases h
  dsimp only at h
  split at h
  · cases h
  cases h
  refine ⟨sp, tp, hf, ht, ‹_›, dedupe_nodup _, fun e => ‹¬_› (List.isEmpty_iff.mpr e), fun a => ?_⟩
  simp only [dedupe_mem, List.mem_flatMap, List.mem_map, mem_readyEps, mem_selectSlices]
  constructor
  · rintro ⟨e, ⟨s, ⟨hs, hp⟩, he, hr⟩, addr, ha, rfl⟩; exact ⟨s, hs, hp, e, he, hr, addr, ha, rfl⟩
  · rintro ⟨s, hs, hp, e, he, hr, addr, ha, rfl⟩; exact ⟨e, ⟨s, ⟨hs, hp⟩, he, hr⟩, addr, ha, rfl⟩

/-- **With no usable endpoint the backend is an error, never an empty server list.** -/
theorem empty_is_error (slices : List Slice) (bname : String) (bnum : Nat) (svc : Svc) (pods : List Pod) :
    endpointsForPort slices bname bnum svc pods ≠ .ok [] := by
  intro h
  obtain ⟨_, _, _, _, _, _, hne, _⟩ := endpointsForPort_exact _ _ _ _ _ _ h
  exact hne rfl

/-- **Endpoints of another Service (or namespace) never receive traffic**: only slices labelled
with this Service's name in its namespace are consulted. -/
theorem other_service_excluded (svc : Svc) (all : List Slice) (s : Slice) :
    s ∈ svcSlices svc all ↔ s ∈ all ∧ s.svc = svc.name ∧ s.ns = svc.ns := by
  unfold svcSlices; simp

/-- A backend of a normal Service resolves through the slices of that Service only. -/
theorem backend_uses_own_slices (isPlus : Bool) (all : List Slice) (bname : String) (bnum : Nat) (svc : Svc)
    (pods : List Pod) (hs : (svcSlices svc all).isEmpty = false) :
    endpointsForBackend isPlus all bname bnum svc pods =
      endpointsForPort (svcSlices svc all) bname bnum svc (pods.filter (matchesSelector svc.selector)) :=
  if_neg (hs ▸ Bool.false_ne_true)

/-- IPv6 addresses are bracketed, IPv4 addresses are not. -/
theorem ipv6_bracketed (addr : String) (p : Nat) :
    (addr.contains ':' = true → joinHostPort addr p = "[" ++ addr ++ "]:" ++ toString p) ∧
    (addr.contains ':' = false → joinHostPort addr p = addr ++ ":" ++ toString p) :=
  ⟨fun h => if_pos h, fun h => if_neg (h ▸ Bool.false_ne_true)⟩

/-- The target port is the referenced service port's target: its own number when unset, the
number when numeric, the first matching pod's container port when named. -/
theorem targetPort_cases (sp : SvcPort) (pods : List Pod) :
    (sp.tp = .unset → targetPortOf sp pods = .ok sp.port) ∧
    (∀ n, sp.tp = .int n → targetPortOf sp pods = .ok n) ∧
    (∀ s, sp.tp = .named s → pods = [] → targetPortOf sp pods = .error .noPods) := by
  unfold targetPortOf
  exact ⟨fun h => by rw [h], fun n h => by rw [h], fun s h hp => by rw [h, hp]⟩

/-! ### non-vacuity -/

private def e1 : Ep := ⟨["10.0.0.1"], some true⟩
private def e2 : Ep := ⟨["10.0.0.2"], some false⟩
private def e3 : Ep := ⟨["10.0.0.3"], none⟩
private def sl1 : Slice := { svc := "svc", ns := "d", ports := [some 8080], eps := [e1, e2, e1, e3] }
private def sp1 : SvcPort := ⟨"", 80, .int 8080, "TCP"⟩
private def sv1 : Svc := { name := "svc", ns := "d", ports := [sp1], selector := [], external := false, extName := "" }

example : dedupe ["a", "b", "a"] = ["a", "b"] := by decide
example : refersTo "" 8081 sp1 = false ∧ refersTo "" 80 sp1 = true := by decide
example : (readyEps (selectSlices 8080 [sl1])).length = 2 := by decide

/-! ### one resource, several backends -/

/-- The server list a backend is given is a function of that backend alone (and the cluster),
not of its position or of the backends processed before it. -/
theorem backends_resolved_independently (isPlus cip : Bool) (all svcs pods) (bs : List Backend) (i : Nat) (h : i < bs.length) :
    (resolveAll isPlus cip all svcs pods bs)[i]'(by simpa [resolveAll] using h) = resolveOne isPlus cip all svcs pods bs[i] :=
  List.getElem_map _

/-- A backend whose Service does not exist gets no servers, whatever the other backends resolve to
and whatever EndpointSlices were left behind under its name. -/
theorem missing_service_no_servers (isPlus cip : Bool) (all svcs pods) (b : Backend)
    (h : ∀ s ∈ svcs, s.1.name ≠ b.svc) : resolveOne isPlus cip all svcs pods b = [] := by
  unfold resolveOne
  rw [List.find?_eq_none.mpr fun s hs => by simpa using h s hs]

/-- a backend's servers come from its own Service's slices only (with `endpointsForPort_exact`, they are exactly the ready
endpoints of the referenced port) -/
theorem resolved_from_own_service (isPlus : Bool) (all svcs pods) (b : Backend) (svc : Svc) (cipAddr : String)
    (h : svcs.find? (fun s => decide (s.1.name = b.svc)) = some (svc, cipAddr)) (l : List String)
    (hl : endpointsForBackend isPlus all "" b.port svc pods = .ok l) : resolveOne isPlus false all svcs pods b = l := by
  unfold resolveOne
  rw [h]; simp [hl]

example : resolveAll false false [⟨"s1", "d", [some 8080], [⟨["10.1.0.1"], some true⟩]⟩]
    [(⟨"s0", "d", [⟨"", 80, .int 8080, "TCP"⟩], [], false, ""⟩, "10.96.0.1")] [] [⟨"s1", 80⟩] = [[]] := by
  decide

end Nic.Eps
