/-
  Tie (translated source ↔ model) for the resource snapshots of the arbitration component (C01, C03): the three `IsEqual`
  methods — which decide whether an AddOrUpdate change is emitted at all —, `Wins`, `GetObjectMeta` with its dynamic dispatch over
  the `Resource` interface, and `GetKeyWithKind`, as they are in /repo now (Nic.Gen.Fns, regenerated on every run by tools/gofn,
  which turns the `for i := range xs { if c { return r } }` loops into `(List.range n).any` and the type assertions with their
  `!ok` guards into a `match`), are the model's `Res.isEqual`, `beats`, `Res.md` and `Res.key` under the abstraction `absRes`.
-/
import Nic.Gen.Fns
import Nic.Model.Arb
import Nic.Props.TieArb
namespace Nic.TieRes
open Nic.Go Nic.Gen.Fns Nic.Gen.Fns.K8sConfiguration Nic.Arb Nic.TieArb

theorem idpure {α} (x : α) : (pure x : Id α) = x := rfl

/-- a check over all indices below the common length is a pointwise check of the two lists -/
theorem range_any_not {α} [Inhabited α] (f : α → α → Bool) (l1 l2 : List α) (h : l1.length = l2.length) :
    (List.range l1.length).any (fun i => !(f (l1.getD i default) (l2.getD i default))) = !(listAll2 f l1 l2) := by
  induction l1 generalizing l2 with
  | nil =>
    cases l2 with
    | nil => simp [listAll2]
    | cons b s => simp at h
  | cons a r ih =>
    cases l2 with
    | nil => simp at h
    | cons b s =>
      simp only [List.length_cons] at h ⊢
      have hl : r.length = s.length := by omega
      rw [List.range_succ_eq_map, List.any_cons, List.any_map]
      simp only [listAll2, Function.comp_def, List.getD_cons_zero, List.getD_cons_succ]
      rw [ih s hl]
      cases f a b <;> simp

theorem listAll2_length_ne {α} (f : α → α → Bool) (l1 l2 : List α) (h : l1.length ≠ l2.length) : listAll2 f l1 l2 = false := by
  fun_induction listAll2 f l1 l2 with
  | case1 => exact absurd rfl h
  | case2 a r b s ih => rw [ih (by simpa using h), Bool.and_false]
  | case3 => rfl

theorem listAll2_map {α β} (f : α → α → Bool) (g : β → β → Bool) (ab : α → β) (l1 l2 : List α)
    (h : ∀ x ∈ l1, ∀ y ∈ l2, f x y = g (ab x) (ab y)) : listAll2 f l1 l2 = listAll2 g (l1.map ab) (l2.map ab) := by
  induction l1 generalizing l2 with
  | nil => cases l2 <;> rfl
  | cons a r ih => cases l2 with
    | nil => rfl
    | cons b s =>
      simp only [listAll2, List.map_cons]
      rw [h a (by simp) b (by simp), ih s (fun x hx y hy => h x (by simp [hx]) y (by simp [hy]))]

/-! ### the abstraction of the controller's resource snapshots to the model's -/

variable (rank : String → Nat) (ann : StrMap → String)

def absMinion (m : MinionConfiguration) : MinionCfg := { md := absMeta rank ann m.Ingress.ObjectMeta, validPaths := m.ValidPaths }

def absIng (c : IngressConfiguration) : IngCfg :=
  { md := absMeta rank ann c.Ingress.ObjectMeta, isMaster := c.IsMaster, hostsDecl := [], minions := c.Minions.map (absMinion rank ann),
    validHosts := c.ValidHosts, warnings := c.Warnings, childWarnings := c.ChildWarnings }

def absVs (c : VirtualServerConfiguration) : VSCfg :=
  { md := absMeta rank ann c.VirtualServer.ObjectMeta, host := "", listener := none,
    vsrs := c.VirtualServerRoutes.map fun r => absMeta rank ann r.ObjectMeta, warnings := c.Warnings,
    httpPort := c.HTTPPort.toNat, httpsPort := c.HTTPSPort.toNat, httpV4 := c.HTTPIPv4, httpV6 := c.HTTPIPv6, httpsV4 := c.HTTPSIPv4, httpsV6 := c.HTTPSIPv6 }

def absTs (c : TransportServerConfiguration) : TSCfg :=
  { md := absMeta rank ann c.TransportServer.ObjectMeta, host := "", lname := "", proto := "", port := c.ListenerPort.toNat,
    v4 := c.IPv4, v6 := c.IPv6, warnings := c.Warnings }

def absRes : Resource → Res
  | .IngressConfiguration c => .ing (absIng rank ann c)
  | .VirtualServerConfiguration c => .vs (absVs rank ann c)
  | .TransportServerConfiguration c => .ts (absTs rank ann c)

/-- generations are non-negative in every object the API server hands out -/
def MetaOk (m : ObjectMeta) : Prop := 0 ≤ m.Generation

def ResOk : Resource → Prop
  | .IngressConfiguration c => MetaOk c.Ingress.ObjectMeta ∧ ∀ m ∈ c.Minions, MetaOk m.Ingress.ObjectMeta
  | .VirtualServerConfiguration c => MetaOk c.VirtualServer.ObjectMeta ∧ ∀ r ∈ c.VirtualServerRoutes, MetaOk r.ObjectMeta
  | .TransportServerConfiguration c => MetaOk c.TransportServer.ObjectMeta ∧ 0 ≤ c.ListenerPort

theorem len_toNat {α} (l : List α) : (Go.len l).toNat = l.length := rfl

theorem len_ne {α} (a b : List α) : (Go.len a != Go.len b) = (a.length != b.length) :=
  congrArg not (decide_eq_decide.mpr Int.ofNat_inj)

/-- `if !c { return false }; k` -/
theorem guard_false (c : Bool) (k : Id Bool) : (if (!c) = true then pure false else k) = (c && k) := by
  cases c <;> rfl

/-- `if a != b { return false }; k` -/
theorem guard_ne {α} [BEq α] (a b : α) (k : Id Bool) : (if (a != b) = true then pure false else k) = ((a == b) && k) := by
  unfold bne; cases a == b <;> rfl

/-- The translated element-wise comparison of two slices — a length check, then a loop that returns
false at the first index where `f` fails — is `listAll2 f`. -/
theorem loop_listAll2 {α} [Inhabited α] (f : α → α → Bool) (l1 l2 : List α) :
    (if (Go.len l1 != Go.len l2) = true then (pure false : Id Bool)
     else if ((List.range (Go.len l1).toNat).any fun i => !f (Go.idx l1 i) (Go.idx l2 i)) = true then pure false
     else pure true) = listAll2 f l1 l2 := by
  rw [len_ne, len_toNat]
  by_cases h : l1.length = l2.length
  · have : ((List.range l1.length).any fun i => !f (Go.idx l1 i) (Go.idx l2 i)) = !listAll2 f l1 l2 :=
      range_any_not f l1 l2 h
    rw [if_neg (by simpa using h), this]; cases listAll2 f l1 l2 <;> rfl
  · rw [if_pos (by simpa using h), listAll2_length_ne f l1 l2 h]; rfl

/-- `IngressConfiguration.IsEqual` as it is in the source is the model's `Res.isEqual`. -/
theorem ingress_isEqual_tie (hr : OrderEmbedding rank) (hinj : ∀ a b, ann a = ann b → a = b)
    (ic : IngressConfiguration) (r : Resource) (h1 : ResOk (.IngressConfiguration ic)) (h2 : ResOk r) :
    IngressConfiguration_IsEqual ic r = Res.isEqual (.ing (absIng rank ann ic)) (absRes rank ann r) := by
  cases r with
  | VirtualServerConfiguration c => rfl
  | TransportServerConfiguration c => rfl
  | IngressConfiguration c =>
    unfold IngressConfiguration_IsEqual
    simp only [Id.run, guard_false]
    rw [loop_listAll2 (fun x y : MinionConfiguration => compareObjectMetasWithAnnotations x.Ingress.ObjectMeta y.Ingress.ObjectMeta),
      compareWithAnnotations_is_metaEqAnn rank hr ann hinj _ _ h1.1 h2.1,
      listAll2_map _ (fun x y : MinionCfg => metaEqAnn x.md y.md) (absMinion rank ann) _ _ fun x hx y hy =>
        compareWithAnnotations_is_metaEqAnn rank hr ann hinj _ _ (h1.2 x hx) (h2.2 y hy)]
    simp only [guard_ne, Res.isEqual, absRes, absIng, Bool.and_assoc, Bool.beq_eq_decide_eq ic.ValidHosts]

theorem virtualserver_isEqual_tie (hr : OrderEmbedding rank)
    (vsc : VirtualServerConfiguration) (r : Resource) (h1 : ResOk (.VirtualServerConfiguration vsc)) (h2 : ResOk r) :
    VirtualServerConfiguration_IsEqual vsc r = Res.isEqual (.vs (absVs rank ann vsc)) (absRes rank ann r) := by
  cases r with
  | IngressConfiguration c => rfl
  | TransportServerConfiguration c => rfl
  | VirtualServerConfiguration c =>
    unfold VirtualServerConfiguration_IsEqual
    simp only [Id.run, guard_false]
    rw [loop_listAll2 (fun x y : VirtualServerRoute => compareObjectMetas x.ObjectMeta y.ObjectMeta),
      compareObjectMetas_is_metaEq rank ann hr _ _ h1.1 h2.1,
      listAll2_map _ metaEq (fun r : VirtualServerRoute => absMeta rank ann r.ObjectMeta) _ _ fun x hx y hy =>
        compareObjectMetas_is_metaEq rank ann hr _ _ (h1.2 x hx) (h2.2 y hy)]
    rfl

/-- Metadata, listener port and both addresses (S-C03-b) -/
theorem transportserver_isEqual_tie (hr : OrderEmbedding rank)
    (tsc : TransportServerConfiguration) (r : Resource) (h1 : ResOk (.TransportServerConfiguration tsc)) (h2 : ResOk r) :
    TransportServerConfiguration_IsEqual tsc r = Res.isEqual (.ts (absTs rank ann tsc)) (absRes rank ann r) := by
  cases r with
  | IngressConfiguration c => rfl
  | VirtualServerConfiguration c => rfl
  | TransportServerConfiguration c =>
    have top := compareObjectMetas_is_metaEq rank ann hr tsc.TransportServer.ObjectMeta c.TransportServer.ObjectMeta h1.1 h2.1
    have port : (tsc.ListenerPort == c.ListenerPort) = decide (tsc.ListenerPort.toNat = c.ListenerPort.toNat) :=
      decide_eq_decide.mpr (by have := h1.2; have := h2.2; omega)
    simp only [TransportServerConfiguration_IsEqual, TransportServerConfiguration_GetObjectMeta, Resource_GetObjectMeta, top, port]
    rfl

/-- `Wins` of every resource kind is the model's `beats` on the two objects' metadata. -/
theorem ingress_wins_tie (hr : OrderEmbedding rank) (ic : IngressConfiguration) (r : Resource)
    (h1 : 0 ≤ ic.Ingress.ObjectMeta.CreationTimestamp.t) (h2 : 0 ≤ (Resource_GetObjectMeta r).CreationTimestamp.t) :
    IngressConfiguration_Wins ic r = beats (absMeta rank ann ic.Ingress.ObjectMeta) (absMeta rank ann (Resource_GetObjectMeta r)) :=
  winner_is_beats rank ann hr _ _ h1 h2

theorem virtualserver_wins_tie (hr : OrderEmbedding rank) (c : VirtualServerConfiguration) (r : Resource)
    (h1 : 0 ≤ c.VirtualServer.ObjectMeta.CreationTimestamp.t) (h2 : 0 ≤ (Resource_GetObjectMeta r).CreationTimestamp.t) :
    VirtualServerConfiguration_Wins c r = beats (absMeta rank ann c.VirtualServer.ObjectMeta) (absMeta rank ann (Resource_GetObjectMeta r)) :=
  winner_is_beats rank ann hr _ _ h1 h2

theorem transportserver_wins_tie (hr : OrderEmbedding rank) (c : TransportServerConfiguration) (r : Resource)
    (h1 : 0 ≤ c.TransportServer.ObjectMeta.CreationTimestamp.t) (h2 : 0 ≤ (Resource_GetObjectMeta r).CreationTimestamp.t) :
    TransportServerConfiguration_Wins c r = beats (absMeta rank ann c.TransportServer.ObjectMeta) (absMeta rank ann (Resource_GetObjectMeta r)) :=
  winner_is_beats rank ann hr _ _ h1 h2

/-- the metadata the dynamic dispatch hands out is the metadata of the abstracted resource -/
theorem getObjectMeta_tie (r : Resource) : absMeta rank ann (Resource_GetObjectMeta r) = (absRes rank ann r).md := by
  cases r <;> rfl

/-- `GetKeyWithKind` is the model's `Res.key` -/
theorem ingress_keyWithKind_tie (c : IngressConfiguration) :
    IngressConfiguration_GetKeyWithKind c = (absRes rank ann (.IngressConfiguration c)).key := rfl
theorem virtualserver_keyWithKind_tie (c : VirtualServerConfiguration) :
    VirtualServerConfiguration_GetKeyWithKind c = (absRes rank ann (.VirtualServerConfiguration c)).key := rfl
theorem transportserver_keyWithKind_tie (c : TransportServerConfiguration) :
    TransportServerConfiguration_GetKeyWithKind c = (absRes rank ann (.TransportServerConfiguration c)).key := rfl

end Nic.TieRes
