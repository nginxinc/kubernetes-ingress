/-
  C18 — observers running beside the control loop never race with it: the lock discipline and what it guarantees.
-/
import Nic.Model.Lockset
import Nic.Gen.LockFacts

namespace Nic.Lockset

theorem inv_init : Inv init := by intro h; cases h

theorem inv_step (m : Mutex) (s : Step) (h : Inv m) : Inv (step m s) := by
  cases s with
  | lock t =>
    -- granted only while there is no reader
    rw [step]; split
    · next hc => exact fun _ => List.isEmpty_iff.mp (Bool.and_eq_true_iff.mp hc).2
    · exact h
  | unlock t =>
    rw [step]; split
    · exact nofun
    · exact h
  | rlock t =>
    -- granted only while there is no writer
    rw [step]; split
    · next hc => exact fun hw => by rw [show m.writer = none from Option.isNone_iff_eq_none.mp hc] at hw; cases hw
    · exact h
  | runlock t => exact fun hw => by rw [step, h hw]; rfl

theorem inv_run (tr : List Step) (m : Mutex) (h : Inv m) : Inv (run m tr) :=
  List.foldlRecOn tr step h fun m hm s _ => inv_step m s hm

theorem race_free_of_inv {m : Mutex} (h : Inv m) {t1 t2 : Thread} (hne : t1 ≠ t2) :
    ¬ (canWrite m t1 ∧ (canRead m t2 ∨ canWrite m t2)) := by
  intro ⟨hw, hr⟩
  have hre : m.readers = [] := h (by rw [hw]; rfl)
  simp only [canRead, canWrite, holdsW, holdsR] at hw hr
  simp only [hw, hre, Option.some.injEq, List.not_mem_nil, or_false, or_self] at hr
  exact hne hr

/-- After any sequence of lock operations by any number of threads — every schedule — a thread that
may write a guarded location and a different thread that may read or write it never coexist. -/
theorem discipline_race_free (tr : List Step) (t1 t2 : Thread) (hne : t1 ≠ t2) :
    ¬ (canWrite (run init tr) t1 ∧ (canRead (run init tr) t2 ∨ canWrite (run init tr) t2)) :=
  race_free_of_inv (inv_run tr init inv_init) hne

/-- Two readers may coexist (the discipline is not vacuous mutual exclusion of everything). -/
example : canRead (run init [.rlock 1, .rlock 2]) 1 ∧ canRead (run init [.rlock 1, .rlock 2]) 2 := by
  constructor <;> (right; simp [run, step, init, holdsR])

/-- Every method that an observer goroutine calls on the arbitration state
(`Configuration`) — and every other observer entry that is not listed as a known finding — takes the mutex in the right mode, and so
does every method that writes what it reads. The table is regenerated from /repo on every run; the entries exempted here are exactly
the known findings S-C18-a/b/d (the Configurator and the secret store have no lock at all). -/
theorem observers_respect_discipline_partial :
    Nic.Gen.LockFacts.observers.all (fun o => Nic.Gen.LockFacts.exempt.contains (o.type ++ "." ++ o.method) || respects Nic.Gen.LockFacts.facts o) = true := by
  decide +kernel

/-- No method of the lock-carrying types touches a field that some method writes *before* taking the mutex
it takes later in its own body (a look-up "to save the lock" in front of `Lock()` is exactly such an access). The table is regenerated
from /repo on every run and is empty on this tree. -/
theorem no_access_before_lock : Nic.Gen.LockFacts.prelocks = [] := rfl

/-- Every method of the arbitration state that writes one of its fields runs under the exclusive lock
(`Lock()`), its own or — for an unexported helper — that of all its callers; none writes under `RLock()` or without the lock. With
`discipline_race_free` this is what makes the writes race-free against every reader that takes the lock. Regenerated table, empty on
this tree. -/
theorem writers_hold_exclusive_lock : Nic.Gen.LockFacts.weakWriters = [] := rfl

end Nic.Lockset
