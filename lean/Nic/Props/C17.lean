/-
  C17 — no admissible Ingress makes validation, arbitration or generation dereference a nil pointer.
-/
import Nic.Model.Shapes

namespace Nic.Shapes

theorem challenge_never_panics (i : Ing) : ∃ n, validateChallenge i = .ok n := by
  unfold validateChallenge
  split
  · split
    · split <;> exact ⟨_, rfl⟩
    · exact ⟨_, rfl⟩
  · exact ⟨_, rfl⟩

/-- Validation of any Ingress — admissible or not, of any mergeable type, challenge or not —
returns a verdict. -/
theorem validate_never_panics (i : Ing) : ∃ n, validate i = .ok n := by
  unfold validate
  by_cases hc : i.challenge = true
  · obtain ⟨n, hn⟩ := challenge_never_panics i
    simp only [hc, if_true, hn]
    exact ⟨_, rfl⟩
  · simp only [hc]
    exact ⟨_, rfl⟩

/-- **S-C17-a, the model's witness** (fixed): before the fix an admissible challenge Ingress with a resource backend panicked. -/
theorem old_validation_panics :
    (⟨[⟨"a.ex", some [⟨⟨none, some "bucket"⟩⟩]⟩], none, 0, true, .regular⟩ : Ing).admissible = true ∧
    validateOld ⟨[⟨"a.ex", some [⟨⟨none, some "bucket"⟩⟩]⟩], none, 0, true, .regular⟩ = .error () :=
  ⟨rfl, rfl⟩

/-- An admissible backend that validation accepts has a Service. -/
private theorem backend_has_service {b : Backend} (ha : b.admissible = true) (hv : validateBackend b = 0) :
    b.service.isSome = true := by
  cases hs : b.service <;> cases hr : b.resource <;> simp [Backend.admissible, validateBackend, hs, hr] at ha hv ⊢

/-! What "no error" says, check by check. -/

private theorem validate_accepts {i : Ing} (hv : validate i = .ok 0) :
    validateSpec i = 0 ∧ mergeableErrors i = 0 ∧ (i.challenge = true → validateChallenge i = .ok 0) := by
  unfold validate at hv
  split at hv
  · next c hc =>
    obtain ⟨h0, rfl⟩ := Nat.add_eq_zero_iff.mp (Except.ok.inj hv)
    exact ⟨(Nat.add_eq_zero_iff.mp h0).1, (Nat.add_eq_zero_iff.mp h0).2, fun h => by rwa [if_pos h] at hc⟩
  · cases hv

private theorem validateMinion_accepts {i : Ing} (h : validateMinion i = 0) :
    ∃ r p ps, i.rules = [r] ∧ r.http = some (p :: ps) := by
  have h := (Nat.add_eq_zero_iff.mp h).2
  split at h
  · next r hr =>
    split at h
    · next p ps hp => exact ⟨r, p, ps, hr, hp⟩
    · cases h
  · cases h

private theorem validateChallenge_accepts {i : Ing} (h : validateChallenge i = .ok 0) :
    ∃ r p, i.rules = [r] ∧ r.http = some [p] ∧ p.backend.service.isSome = true := by
  unfold validateChallenge at h
  split at h
  · next r hr =>
    split at h
    · next p hp =>
      split at h
      · cases h
      · next s hs => exact ⟨r, p, hr, hp, by rw [hs]; rfl⟩
    · cases h
  · cases h

/-- An admissible Ingress that validation accepts (no error) is arbitrated and generated without
any nil dereference — for any number of rules and paths, with or without default backend, of any mergeable type,
challenge or not. -/
theorem accepted_then_safe (i : Ing) (ha : i.admissible = true) (hv : validate i = .ok 0) : generate i = .ok () := by
  obtain ⟨hspec, hm, hc⟩ := validate_accepts hv
  simp only [Ing.admissible, Bool.and_eq_true, List.all_eq_true] at ha
  obtain ⟨hd0, hr0⟩ := Nat.add_eq_zero_iff.mp hspec
  split at hr0
  · cases hr0
  next hne =>
  rw [List.sum_eq_zero_iff_forall_eq_nat, List.forall_mem_map] at hr0
  suffices h : derefsOk i = true by rw [generate, h]; rfl
  simp only [derefsOk, Bool.and_eq_true, List.all_eq_true]
  refine ⟨⟨?_, fun r hr => ?_⟩, ?_⟩
  · unfold defaultErrors at hd0
    cases hb : i.defaultBackend with
    | none => rfl
    | some b => rw [hb] at ha hd0; exact backend_has_service ha.1 hd0
  · have h1 := hr0 r hr
    have h2 := ha.2 r hr
    unfold ruleErrors at h1
    cases hh : r.http with
    | none => rfl
    | some ps =>
      simp only [hh, Bool.and_eq_true, List.all_eq_true, List.sum_eq_zero_iff_forall_eq_nat, List.forall_mem_map] at h1 h2 ⊢
      exact fun p hp => backend_has_service (h2.2 p hp) (h1 p hp)
  · -- `Rules[0]` and what is read through it: a challenge Ingress and a minion have exactly one rule
    by_cases hch : i.challenge = true
    · obtain ⟨r, p, h1, h2, h3⟩ := validateChallenge_accepts (hc hch)
      simp [h1, h2, h3]
    · by_cases hmin : i.mtype = .minion
      · rw [mergeableErrors, hmin] at hm
        obtain ⟨r, p, ps, h1, h2⟩ := validateMinion_accepts hm
        simp [h1, h2, hch]
      · cases hrules : i.rules with
        | nil => rw [hrules] at hne; exact absurd rfl hne
        | cons r0 rest => simp [hch, hmin]

/-- Without the API server's "exactly one of service / resource" rule the implication is false: a backend with neither is
accepted by validation and dereferenced by generation (such an object cannot be admitted, so this is not a finding). -/
theorem inadmissible_backend_breaks :
    (⟨[⟨"a.ex", some [⟨⟨none, none⟩⟩]⟩], none, 0, false, .regular⟩ : Ing).admissible = false ∧
    validate ⟨[⟨"a.ex", some [⟨⟨none, none⟩⟩]⟩], none, 0, false, .regular⟩ = .ok 0 ∧
    generate ⟨[⟨"a.ex", some [⟨⟨none, none⟩⟩]⟩], none, 0, false, .regular⟩ = .error () :=
  ⟨rfl, rfl, rfl⟩

example : (⟨[⟨"a.ex", some [⟨⟨some ⟨"s", "", 80⟩, none⟩⟩]⟩], none, 0, false, .regular⟩ : Ing).admissible = true := by decide

end Nic.Shapes
