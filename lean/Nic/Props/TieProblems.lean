/-
  Tie (translated source ↔ model) for C05's report delta: `compareConfigurationProblems` and `detectChangesInProblems` as they
  are in /repo now (Nic.Gen.Fns, regenerated on every run by tools/gofn — the accumulating `for _, key := range …` loop with its
  `continue` is carried over statement for statement into Lean's `for … in … do`) are the model's `detectProblemChanges`
  under the abstraction that reads a Go `ConfigurationProblem` as a model `Problem`.
-/
import Nic.Gen.Fns
import Nic.Lemmas.Map
namespace Nic.TieProblems
open Nic.Go Nic.Gen.Fns Nic.Gen.Fns.K8sConfiguration Nic.Arb

def absP (p : ConfigurationProblem) : Problem := ⟨p.Object, p.IsError, p.Reason, p.Message⟩
def absM (m : List (String × ConfigurationProblem)) : Map Problem := m.map fun kp => (kp.1, absP kp.2)

/-- the comparison that decides whether a problem is reported again -/
theorem compareConfigurationProblems_tie (a b : ConfigurationProblem) :
    compareConfigurationProblems a b =
      ((absP a).isError = (absP b).isError && (absP a).reason = (absP b).reason && (absP a).msg = (absP b).msg) := rfl

/-- what one key contributes to the result -/
def contrib (new old : List (String × ConfigurationProblem)) (key : String) : Option ConfigurationProblem :=
  if !(Go.has old key) then some (Go.idx new key)
  else if !(compareConfigurationProblems (Go.idx new key) (Go.idx old key)) then some (Go.idx new key) else none

/-- the loop, for any list of keys and any accumulator -/
theorem loop_eq (new old : List (String × ConfigurationProblem)) (ks : List String) (acc : List ConfigurationProblem) :
    (forIn (m := Id) ks acc fun key s =>
      if (!Go.has old key) = true then (ForInStep.yield (s ++ [Go.idx new key]) : Id _)
      else if (!compareConfigurationProblems (Go.idx new key) (Go.idx old key)) = true then ForInStep.yield (s ++ [Go.idx new key])
      else ForInStep.yield s) = acc ++ ks.filterMap (contrib new old) := by
  unfold contrib
  -- every branch of the body yields: the step is `ih` at the accumulator that branch leaves
  induction ks generalizing acc with
  | nil => exact (List.append_nil acc).symm
  | cons k r ih =>
    rw [List.forIn_cons, List.filterMap_cons]
    cases Go.has old k
    · exact (ih _).trans (List.append_assoc ..)
    · cases compareConfigurationProblems (Go.idx new k) (Go.idx old k)
      · exact (ih _).trans (List.append_assoc ..)
      · exact ih acc

theorem filterMap_congr_on {α β} (l : List α) (f g : α → Option β) (h : ∀ x ∈ l, f x = g x) : l.filterMap f = l.filterMap g := by
  induction l with
  | nil => rfl
  | cons a r ih =>
    simp only [List.filterMap_cons]
    rw [h a (by simp), ih (fun x hx => h x (List.mem_cons_of_mem _ hx))]

/-- Reading a Go map (`m[k]`, `_, ok := m[k]`) is the model's `Map.get?`. -/
theorem find?_eq_get? {β} (m : List (String × β)) (k : String) :
    (m.find? fun p => p.1 == k).map (·.2) = Map.get? m k := by
  fun_induction Map.get? m k with
  | case1 => rfl
  | case2 v r => simp only [List.find?_cons, beq_self_eq_true, Option.map_some]
  | case3 k' v r hk ih => simp only [List.find?_cons, beq_false_of_ne hk, ih]

theorem idx_eq_get? {β} [Inhabited β] (m : List (String × β)) (k : String) :
    Go.idx m k = (Map.get? m k).getD default :=
  congrArg (·.getD default) (find?_eq_get? m k)

theorem has_eq_contains {β} (m : List (String × β)) (k : String) : Go.has m k = Map.contains m k := by
  rw [Map.contains_eq, ← find?_eq_get?, Option.isSome_map, Bool.eq_iff_iff, List.find?_isSome]
  exact List.any_eq_true

theorem get?_absM (old : List (String × ConfigurationProblem)) (k : String) :
    (absM old).get? k = if Go.has old k then some (absP (Go.idx old k)) else none := by
  rw [absM, Map.get?_map_entry old (f := fun _ => absP) (fun _ _ => rfl), has_eq_contains, Map.contains_eq, idx_eq_get?]
  cases Map.get? old k <;> rfl

/-- **The report delta of the code is the model's** (`detectProblemChanges`): for all problem maps with distinct keys (Go maps),
the problems returned by `detectChangesInProblems` — in key order — are the new problems that are absent from the old map or
differ from the old entry in error flag, reason or message. -/
theorem detectChangesInProblems_tie (new old : List (String × ConfigurationProblem)) (hn : (new.map (·.1)).Nodup) :
    (detectChangesInProblems new old).map absP = detectProblemChanges (absM new) (absM old) := by
  have hloop : detectChangesInProblems new old = (new.map (·.1)).filterMap (contrib new old) :=
    (loop_eq new old (Go.sortedKeys new) []).trans (List.nil_append _)
  -- both sides are a `filterMap` over the entries of `new`: compare what one entry contributes
  unfold detectProblemChanges
  rw [hloop, List.filterMap_map, List.map_filterMap, show absM new = new.map _ from rfl, List.filterMap_map]
  apply filterMap_congr_on
  rintro ⟨k, p⟩ hkp
  simp only [Function.comp, contrib, idx_eq_get? new, Map.get?_of_mem_of_nodup new hn k p hkp, Option.getD_some, get?_absM]
  cases Go.has old k
  · rfl
  · show _ = if compareConfigurationProblems p (Go.idx old k) = true then none else some (absP p)
    cases compareConfigurationProblems p (Go.idx old k) <;> rfl

/-! ### non-vacuity: a new problem, a changed one and an unchanged one -/
private def pA : ConfigurationProblem := { Object := "Ingress/d/a", IsError := false, Reason := "Rejected", Message := "m1" }
private def pB : ConfigurationProblem := { Object := "Ingress/d/b", IsError := false, Reason := "Rejected", Message := "m2" }
private def pB' : ConfigurationProblem := { Object := "Ingress/d/b", IsError := false, Reason := "Rejected", Message := "m2x" }
private def pC : ConfigurationProblem := { Object := "Ingress/d/c", IsError := true, Reason := "Rejected", Message := "m3" }
example : detectChangesInProblems [("Ingress/d/a", pA), ("Ingress/d/b", pB'), ("Ingress/d/c", pC)] [("Ingress/d/b", pB), ("Ingress/d/c", pC)] = [pA, pB'] := by
  decide

end Nic.TieProblems
