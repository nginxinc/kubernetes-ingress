/-
  C04 — the per-path arbitration among the minions of one master host:
  **every path claimed under the host is served by exactly one minion, and no claimant beats it**
  (the oldest claimant; on equal creation times the one with the greater UID).

  `buildMinions` is a fold over the Ingresses (key order) of a fold over each minion's paths.
  The invariant below is stated over the accumulator and a *log* of the claims (minion index, path)
  processed so far; the theorems at the end read it off for the result of `buildMinions`.
-/
import Nic.Props.C04

namespace Nic.Arb

/-- What minion `j` says about path `p`: `some true` = serves it, `some false` = lost it, `none` = never held it. -/
def vp (cfgs : List MinionCfg) (j : Nat) (p : String) : Option Bool :=
  match cfgs[j]? with
  | some c => c.validPaths.get? p
  | none => none

def mdAt (cfgs : List MinionCfg) (j : Nat) : Meta := (cfgs[j]?.map (·.md)).getD default

theorem vp_setValid (cfgs : List MinionCfg) (i : Nat) (p : String) (v : Bool) (j : Nat) (q : String) :
    vp (setValid cfgs i p v) j q = if j = i ∧ q = p ∧ i < cfgs.length then some v else vp cfgs j q := by
  unfold vp setValid
  rw [List.getElem?_mapIdx]
  cases hc : cfgs[j]? with
  | none =>
    have hlen : cfgs.length ≤ j := List.getElem?_eq_none_iff.mp hc
    have : ¬ (j = i ∧ q = p ∧ i < cfgs.length) := by omega
    simp [this]
  | some c =>
    have hlen : j < cfgs.length := (List.getElem?_eq_some_iff.mp hc).1
    by_cases hji : j = i
    · subst hji
      simp only [Option.map_some, if_true, true_and, hlen, and_true]
      rw [Map.get?_set]
    · simp [hji]

theorem length_setValid (cfgs : List MinionCfg) (i : Nat) (p : String) (v : Bool) :
    (setValid cfgs i p v).length = cfgs.length := by simp [setValid]

theorem mdAt_of_map (cfgs : List MinionCfg) (j : Nat) : mdAt cfgs j = ((cfgs.map (·.md))[j]?).getD default := by
  simp [mdAt, List.getElem?_map]

theorem mdAt_congr {c1 c2 : List MinionCfg} (h : c1.map (·.md) = c2.map (·.md)) (j : Nat) : mdAt c1 j = mdAt c2 j := by
  rw [mdAt_of_map, mdAt_of_map, h]

theorem length_congr {c1 c2 : List MinionCfg} (h : c1.map (·.md) = c2.map (·.md)) : c1.length = c2.length := by
  simpa using congrArg List.length h

theorem vp_append_of_nil (cfgs : List MinionCfg) {c : MinionCfg} (hc : c.validPaths = []) (j : Nat) (p : String) :
    vp (cfgs ++ [c]) j p = vp cfgs j p := by
  unfold vp
  rw [List.getElem?_append]
  by_cases hj : j < cfgs.length
  · rw [if_pos hj]
  · rw [if_neg hj, List.getElem?_eq_none_iff.mpr (Nat.le_of_not_lt hj)]
    cases j - cfgs.length with
    | zero => exact congrArg (Map.get? · p) hc
    | succ n => rfl

theorem mdAt_append_left {cfgs l : List MinionCfg} {j : Nat} (hj : j < cfgs.length) :
    mdAt (cfgs ++ l) j = mdAt cfgs j := by
  unfold mdAt; rw [List.getElem?_append_left hj]

/-- The invariant of `buildMinionConfigs`. `log` = the claims processed so far. `held`: the holder of a path is a
minion that claimed it, is the only one whose verdict for it is `true`, and is beaten by no claimant in the log;
`free`: a path nobody holds has no `true` verdict and no claim; `bound`: the log speaks of existing minions. -/
structure PInv (a : MinAcc) (log : List (Nat × String)) : Prop where
  held : ∀ p i, a.paths.get? p = some i →
    i < a.cfgs.length ∧ (i, p) ∈ log ∧ vp a.cfgs i p = some true ∧
    (∀ j, j ≠ i → vp a.cfgs j p ≠ some true) ∧
    (∀ j, (j, p) ∈ log → beats (mdAt a.cfgs j) (mdAt a.cfgs i) = false)
  free : ∀ p, a.paths.get? p = none → (∀ j, vp a.cfgs j p ≠ some true) ∧ (∀ j, (j, p) ∉ log)
  bound : ∀ j p, (j, p) ∈ log → j < a.cfgs.length

theorem PInv.init : PInv {} [] :=
  ⟨by intro p i h; simp [Map.get?] at h, by intro p _; exact ⟨by intro j; simp [vp], by simp⟩, by simp⟩

private theorem log_cases {log : List (Nat × String)} {self j : Nat} {p q : String} (hj : (j, q) ∈ log ++ [(self, p)]) :
    (j, q) ∈ log ∨ (j = self ∧ q = p) :=
  (List.mem_append.mp hj).imp_right fun h => Prod.mk.inj (List.mem_singleton.mp h)

theorem PInv.cw {a : MinAcc} {log : List (Nat × String)} (h : PInv a log) (cw : Map (List String)) :
    PInv { a with cw := cw } log := ⟨h.held, h.free, h.bound⟩

/-- The claimant does not beat the holder of the path: only the log grows. -/
theorem PInv.keep {a : MinAcc} {log : List (Nat × String)} {self hi : Nat} {p : String} (h : PInv a log)
    (hs : self < a.cfgs.length) (hp : a.paths.get? p = some hi)
    (hb : beats (mdAt a.cfgs self) (mdAt a.cfgs hi) = false) : PInv a (log ++ [(self, p)]) := by
  refine ⟨fun q i hq => ?_, fun q hq => ⟨(h.free q hq).1, fun j hj => ?_⟩, fun j q hj => ?_⟩
  · obtain ⟨h1, h2, h3, h4, h5⟩ := h.held q i hq
    refine ⟨h1, List.mem_append_left _ h2, h3, h4, fun j hj => ?_⟩
    rcases log_cases hj with hj | ⟨rfl, rfl⟩
    · exact h5 j hj
    · cases hp.symm.trans hq; exact hb
  · rcases log_cases hj with hj | ⟨_, rfl⟩
    · exact (h.free q hq).2 j hj
    · cases hp.symm.trans hq
  · rcases log_cases hj with hj | ⟨rfl, _⟩
    · exact h.bound j q hj
    · exact hs

/-- The claimant takes the path: whatever is done to the verdicts, as long as afterwards the claimant alone
serves `p` and the verdicts for the other paths are untouched. -/
theorem PInv.take {a : MinAcc} {log : List (Nat × String)} {self : Nat} {p : String} {cfgs : List MinionCfg}
    (h : PInv a log) (hs : self < a.cfgs.length) (hmd : cfgs.map (·.md) = a.cfgs.map (·.md))
    (hne : ∀ j q, q ≠ p → vp cfgs j q = vp a.cfgs j q) (hself : vp cfgs self p = some true)
    (hoth : ∀ j, j ≠ self → vp cfgs j p ≠ some true)
    (hbest : ∀ j, (j, p) ∈ log → beats (mdAt a.cfgs j) (mdAt a.cfgs self) = false) :
    PInv { a with paths := a.paths.set p self, cfgs := cfgs } (log ++ [(self, p)]) := by
  have hlen : cfgs.length = a.cfgs.length := length_congr hmd
  refine ⟨fun q i hq => ?_, fun q hq => ?_, fun j q hj => ?_⟩
  · rw [Map.get?_set] at hq
    by_cases hqp : q = p
    · subst hqp
      rw [if_pos rfl] at hq; cases hq
      refine ⟨hlen ▸ hs, List.mem_append_right _ (List.mem_singleton_self _), hself, hoth, fun j hj => ?_⟩
      rw [mdAt_congr hmd, mdAt_congr hmd]
      rcases log_cases hj with hj | ⟨rfl, _⟩
      · exact hbest j hj
      · exact beats_irrefl _
    · rw [if_neg hqp] at hq
      obtain ⟨h1, h2, h3, h4, h5⟩ := h.held q i hq
      refine ⟨hlen ▸ h1, List.mem_append_left _ h2, hne i q hqp ▸ h3, fun j hj => hne j q hqp ▸ h4 j hj, fun j hj => ?_⟩
      rw [mdAt_congr hmd, mdAt_congr hmd]
      exact h5 j ((log_cases hj).resolve_right fun e => hqp e.2)
  · rw [Map.get?_set] at hq
    by_cases hqp : q = p
    · rw [if_pos hqp] at hq; cases hq
    · rw [if_neg hqp] at hq
      exact ⟨fun j => hne j q hqp ▸ (h.free q hq).1 j,
        fun j hj => (h.free q hq).2 j ((log_cases hj).resolve_right fun e => hqp e.2)⟩
  · rw [hlen]
    rcases log_cases hj with hj | ⟨rfl, _⟩
    · exact h.bound j q hj
    · exact hs

theorem PInv.step {a : MinAcc} {log : List (Nat × String)} {self : Nat} {m : Meta} (h : PInv a log)
    (hs : self < a.cfgs.length) (hm : mdAt a.cfgs self = m) (p : String) :
    PInv (minionPath self m a p) (log ++ [(self, p)]) := by
  unfold minionPath
  cases hp : a.paths.get? p with
  | none =>
    -- nobody holds the path: the claimant takes it
    refine h.take hs (setValid_md ..) (fun j q hq => ?_) ?_ (fun j hj => ?_)
      (fun j hj => absurd hj ((h.free p hp).2 j))
    · simp [vp_setValid, hq]
    · simp [vp_setValid, hs]
    · simpa [vp_setValid, hj] using (h.free p hp).1 j
  | some hi =>
    dsimp only
    obtain ⟨hhi, _, _, hothers, hbest⟩ := h.held p hi hp
    by_cases hself : hi = self
    · -- the same minion lists the path again
      rw [if_pos hself]; exact h.keep hs hp (hself ▸ beats_irrefl _)
    · rw [if_neg hself, List.getElem?_eq_getElem hhi]
      have hmd : mdAt a.cfgs hi = a.cfgs[hi].md := by simp [mdAt, hhi]
      dsimp only
      cases hb : beats a.cfgs[hi].md m with
      | true =>
        -- the holder beats the claimant: nothing moves
        rw [Bool.not_true, if_neg Bool.false_ne_true]
        exact (h.keep hs hp (by rw [hm, hmd]; exact beats_asymm hb)).cw _
      | false =>
        -- the claimant is not beaten by the holder: it takes the path, the holder loses it
        rw [Bool.not_false, if_pos rfl]
        refine (h.take (cfgs := setValid (setValid a.cfgs self p true) hi p false) hs
          (by rw [setValid_md, setValid_md]) (fun j q hq => ?_) ?_ (fun j hj => ?_) (fun j hj => ?_)).cw _
        · simp [vp_setValid, hq]
        · simp [vp_setValid, hs, Ne.symm hself]
        · by_cases hjh : j = hi
          · simp [vp_setValid, hjh, length_setValid, hhi]
          · simpa [vp_setValid, hjh, hj] using hothers j hjh
        · -- nobody in the log beats the old holder, and the old holder does not beat the claimant
          rw [hm]; exact beats_ge_trans hb (hmd ▸ hbest j hj)

/-! ### lifting the step through the two folds -/

theorem PInv.paths {a : MinAcc} {log : List (Nat × String)} {self : Nat} {m : Meta} (h : PInv a log)
    (hs : self < a.cfgs.length) (hm : mdAt a.cfgs self = m) (ps : List String) :
    PInv (ps.foldl (minionPath self m) a) (log ++ ps.map (fun p => (self, p))) := by
  induction ps generalizing a log with
  | nil => simpa using h
  | cons p ps ih =>
    have hmd := minionPath_md self m a p
    have := ih (h.step hs hm p) (length_congr hmd ▸ hs) (mdAt_congr hmd self ▸ hm)
    simpa [List.append_assoc] using this

/-- A new minion enters with no verdicts. -/
theorem PInv.push {a : MinAcc} {log : List (Nat × String)} (h : PInv a log) (c : MinionCfg) (hc : c.validPaths = []) :
    PInv { a with cfgs := a.cfgs ++ [c] } log := by
  have hlt : ∀ {j}, j < a.cfgs.length → j < (a.cfgs ++ [c]).length := fun hj => by
    rw [List.length_append]; exact Nat.lt_add_right _ hj
  refine ⟨fun p i hp => ?_, fun p hp => ?_, fun j p hj => hlt (h.bound j p hj)⟩
  · obtain ⟨h1, h2, h3, h4, h5⟩ := h.held p i hp
    simp only [vp_append_of_nil _ hc]
    refine ⟨hlt h1, h2, h3, h4, fun j hj => ?_⟩
    rw [mdAt_append_left (h.bound j p hj), mdAt_append_left h1]
    exact h5 j hj
  · simp only [vp_append_of_nil _ hc]
    exact h.free p hp

def firstPaths (i : Ing) : List String := match i.rules with | [] => [] | (_, ps) :: _ => ps

theorem firstPaths_eq (i : Ing) : firstPaths i = (i.rules.head?.map (·.2)).getD [] := by
  unfold firstPaths; cases i.rules <;> rfl

theorem PInv.minion (host : String) (a : MinAcc) (log : List (Nat × String)) (kv : String × Ing) (h : PInv a log) :
    PInv (minionStep host a kv)
      (log ++ (if isMinionOf host kv then (firstPaths kv.2).map (fun p => (a.cfgs.length, p)) else [])) := by
  rw [minionStep_eq, ← firstPaths_eq]
  split
  · exact (h.push _ rfl).paths (by simp) (by simp [mdAt]) _
  · rwa [List.append_nil]

/-- The claims of a list of Ingresses, in processing order: each minion of the host, numbered from `n`, with each of
the paths of its first rule. -/
def claimLog (host : String) (l : List (String × Ing)) (n : Nat) : List (Nat × String) :=
  ((l.filter (isMinionOf host)).zipIdx n).flatMap fun x => (firstPaths x.1.2).map fun p => (x.2, p)

theorem mem_claimLog {host : String} {l : List (String × Ing)} {j : Nat} {p : String} :
    (j, p) ∈ claimLog host l 0 ↔
      ∃ hj : j < (l.filter (isMinionOf host)).length, p ∈ firstPaths ((l.filter (isMinionOf host))[j]).2 := by
  unfold claimLog
  rw [List.mem_flatMap]
  constructor
  · rintro ⟨⟨kv, k⟩, hm, hp⟩
    obtain ⟨q, hq, e⟩ := List.mem_map.mp hp
    cases e
    obtain ⟨hj, rfl⟩ := List.getElem?_eq_some_iff.mp (List.mk_mem_zipIdx_iff_getElem?.mp hm)
    exact ⟨hj, hq⟩
  · rintro ⟨hj, hp⟩
    exact ⟨(_, j), List.mk_mem_zipIdx_iff_getElem?.mpr (List.getElem?_eq_getElem hj), List.mem_map_of_mem hp⟩

theorem claimLog_cons (host : String) (kv : String × Ing) (r : List (String × Ing)) (n : Nat) :
    claimLog host (kv :: r) n =
      (if isMinionOf host kv then (firstPaths kv.2).map (fun p => (n, p)) else []) ++
        claimLog host r (n + if isMinionOf host kv then 1 else 0) := by
  unfold claimLog
  rw [List.filter_cons]
  split
  · rw [List.zipIdx_cons, List.flatMap_cons]
  · rfl

theorem minionStep_length (host : String) (a : MinAcc) (kv : String × Ing) :
    (minionStep host a kv).cfgs.length = a.cfgs.length + (if isMinionOf host kv then 1 else 0) := by
  have := congrArg List.length (minionStep_md host a kv)
  simp only [List.length_map, List.length_append] at this
  rw [this]; split <;> rfl

theorem PInv.fold (host : String) (l : List (String × Ing)) (a : MinAcc) (log : List (Nat × String)) (h : PInv a log) :
    PInv (l.foldl (minionStep host) a) (log ++ claimLog host l a.cfgs.length) := by
  induction l generalizing a log with
  | nil => simpa [claimLog] using h
  | cons kv r ih =>
    rw [List.foldl_cons, claimLog_cons, ← List.append_assoc, ← minionStep_length]
    exact ih _ _ (PInv.minion host a log kv h)

/-! ### the property -/

/-- **Every path claimed under a master's host is served by exactly one minion, and no claimant beats that minion**
(`beats` = older creation time, on a tie the greater UID): for every set of Ingresses, every host, every minion `j` of that host
and every path `p` it lists, there is a minion `i` of the host that lists `p`, is the only one whose `ValidPaths[p]` is true,
and is not beaten by any minion that lists `p`. Minions are numbered in key order as in `minions_eq_spec`. -/
theorem path_served_by_oldest_claimant (ings : Map Ing) (host : String) (j : Nat) (p : String)
    (hj : j < (ings.filter (isMinionOf host)).length)
    (hp : p ∈ firstPaths ((ings.filter (isMinionOf host))[j]).2) :
    ∃ i, ∃ hi : i < (ings.filter (isMinionOf host)).length,
      p ∈ firstPaths ((ings.filter (isMinionOf host))[i]).2 ∧
      vp (buildMinions ings host).1 i p = some true ∧
      (∀ k, k ≠ i → vp (buildMinions ings host).1 k p ≠ some true) ∧
      (∀ k, ∀ hk : k < (ings.filter (isMinionOf host)).length,
        p ∈ firstPaths ((ings.filter (isMinionOf host))[k]).2 →
        beats ((ings.filter (isMinionOf host))[k]).2.md ((ings.filter (isMinionOf host))[i]).2.md = false) := by
  have hinv : PInv (ings.foldl (minionStep host) {}) (claimLog host ings 0) := by
    simpa using PInv.fold host ings {} [] PInv.init
  have hmdAt : ∀ k (hk : k < (ings.filter (isMinionOf host)).length),
      mdAt (buildMinions ings host).1 k = ((ings.filter (isMinionOf host))[k]).2.md := fun k hk => by
    rw [mdAt_of_map, minions_eq_spec, List.getElem?_map, List.getElem?_eq_getElem hk]; rfl
  cases hg : (ings.foldl (minionStep host) {}).paths.get? p with
  | none => exact absurd (mem_claimLog.mpr ⟨hj, hp⟩) ((hinv.free p hg).2 j)
  | some i =>
    obtain ⟨_, hil, hval, hoth, hbest⟩ := hinv.held p i hg
    obtain ⟨hi, hpi⟩ := mem_claimLog.mp hil
    refine ⟨i, hi, hpi, hval, hoth, fun k hk hpk => ?_⟩
    rw [← hmdAt k hk, ← hmdAt i hi]
    exact hbest k (mem_claimLog.mpr ⟨hk, hpk⟩)

/-- With distinct UIDs the minion that serves a path beats every other claimant: it is *the* oldest one. -/
theorem path_holder_beats_others (ings : Map Ing) (host : String) (i k : Nat) (p : String)
    (hi : i < (ings.filter (isMinionOf host)).length) (hk : k < (ings.filter (isMinionOf host)).length)
    (hserves : vp (buildMinions ings host).1 i p = some true)
    (hpk : p ∈ firstPaths ((ings.filter (isMinionOf host))[k]).2)
    (huid : ((ings.filter (isMinionOf host))[k]).2.md.uid ≠ ((ings.filter (isMinionOf host))[i]).2.md.uid) :
    beats ((ings.filter (isMinionOf host))[i]).2.md ((ings.filter (isMinionOf host))[k]).2.md = true := by
  obtain ⟨i', _, _, _, hoth, hbest⟩ := path_served_by_oldest_claimant ings host k p hk hpk
  cases (Decidable.byContradiction fun e => hoth i e hserves : i = i')
  exact not_beats huid (hbest k hk hpk)

/-! ### non-vacuity: two minions claim `/p`, the older one (m2) serves it, the younger one lost it -/

private def mA : Meta := { ns := "d", name := "m1", uid := 1, ts := 2, gen := 1 }
private def mB : Meta := { ns := "d", name := "m2", uid := 2, ts := 1, gen := 1 }
private def ingsX : Map Ing :=
  [("d/m1", { md := mA, kind := .minion, chal := false, rules := [("a.ex", ["/p"])] }),
   ("d/m2", { md := mB, kind := .minion, chal := false, rules := [("a.ex", ["/p", "/q"])] })]

example : (ingsX.filter (isMinionOf "a.ex")).length = 2 := by decide
example : "/p" ∈ firstPaths ((ingsX.filter (isMinionOf "a.ex"))[0]'(by decide)).2 := by decide
example : vp (buildMinions ingsX "a.ex").1 1 "/p" = some true ∧ vp (buildMinions ingsX "a.ex").1 0 "/p" = some false ∧
    vp (buildMinions ingsX "a.ex").1 1 "/q" = some true := by decide

end Nic.Arb
