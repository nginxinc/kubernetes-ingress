/-
  C15 — a change to anything a served resource depends on reaches that resource:
  no dependency is consulted during generation that the reverse lookup cannot find.

  A forward list is a concatenation of pieces, so each theorem is split along `++` / `flatMap` / `map`
  (`List.forall_mem_*`) into one goal per piece, and each piece is answered by the reverse lookup that mirrors it.
-/
import Nic.Model.Refs

namespace Nic.Refs

private theorem forall_mem_opt {α : Type} {c : Prop} [Decidable c] {a : α} {p : α → Prop} :
    (∀ x ∈ (if c then [] else [a]), p x) ↔ (¬ c → p a) := by
  split <;> simp [*]

/-- What the upstreams `us` of a resource in namespace `ns` consult has `p`, if every Service that the
reference checkers' upstream test names has. -/
private theorem upstreamDeps_found {p : Dep → Prop} {ns : String} {us : List Upstream}
    (h : ∀ n, us.any (fun u => u.service = n || u.backup = n) = true → p (.service ns n)) :
    ∀ u ∈ us, ∀ d ∈ upstreamDeps ns u, p d := by
  intro u hu
  simp only [upstreamDeps, List.forall_mem_cons, forall_mem_opt]
  exact ⟨h _ (List.any_eq_true.mpr ⟨u, hu, by simp⟩), fun _ => h _ (List.any_eq_true.mpr ⟨u, hu, by simp⟩)⟩

private theorem polReferenced_of_mem {refs : List PolRef} {r : PolRef} (h : r ∈ refs) (ownerNs : String) :
    polReferenced refs ownerNs (polKey ownerNs r).1 (polKey ownerNs r).2 = true :=
  List.any_eq_true.mpr ⟨r, h, by simp [polKey]⟩

private theorem lookup_some {pols : List Policy} {k : String × String} {p : Policy} (h : lookup pols k = some p) :
    p ∈ pols ∧ p.ns = k.1 ∧ p.name = k.2 :=
  ⟨List.mem_of_find?_eq_some h, by simpa using List.find?_some h⟩

/-- Everything consulted for one policy reference is found again, provided the reverse lookup
finds the policy itself from this reference. -/
private theorem polDeps_found {pols : List Policy} {v : VS} {rs : List VSR} {ownerNs : String} {r : PolRef}
    (hf : policyFinds v rs (polKey ownerNs r).1 (polKey ownerNs r).2 = true) :
    ∀ d ∈ polDeps pols ownerNs r, reverseVS pols v rs d = true := by
  simp only [polDeps, List.forall_mem_cons]
  refine ⟨hf, ?_⟩
  cases hl : lookup pols (polKey ownerNs r) with
  | none => simp
  | some p =>
    obtain ⟨hm, h1, h2⟩ := lookup_some hl
    rw [← h1, ← h2] at hf
    simp only [List.forall_mem_append, List.forall_mem_map, forall_mem_opt]
    refine ⟨⟨fun s hs => ?_, fun he => ?_⟩, fun l hl' => ?_⟩
    · simp only [reverseVS, secretFinds, Bool.or_eq_true]
      exact .inr (List.any_eq_true.mpr ⟨p, hm, by simp [hs, hf]⟩)
    · exact List.any_eq_true.mpr ⟨p, hm, by simp [he, hf]⟩
    · exact List.any_eq_true.mpr ⟨p, hm, by simp only [hf, Bool.and_true]; exact List.any_eq_true.mpr ⟨l, hl', by simp⟩⟩

/-- **forward ⊆ reverse for VirtualServers and their routes**: every Secret, Service, Policy and
App Protect resource consulted while the extended VirtualServer is built — directly, through a
Policy, in the spec, a route or a subroute of an attached VirtualServerRoute, by bare or by
qualified reference — is mapped back to the VirtualServer by the reverse lookups. -/
theorem forward_subset_reverse_vs (pols : List Policy) (v : VS) (rs : List VSR) :
    ∀ d ∈ forwardVS pols v rs, reverseVS pols v rs d = true := by
  simp only [forwardVS, List.forall_mem_append, List.forall_mem_flatMap, forall_mem_opt]
  refine ⟨⟨⟨⟨fun h => ?_, fun r hr => polDeps_found ?_⟩, upstreamDeps_found fun n hn => ?_⟩,
    fun ps hps r hr => polDeps_found ?_⟩,
    fun x hx => ⟨fun ps hps r hr => polDeps_found ?_, upstreamDeps_found fun n hn => ?_⟩⟩
  · simp [reverseVS, secretFinds, h]
  · simp only [policyFinds, Bool.or_eq_true]
    exact .inl (.inl (polReferenced_of_mem hr _))
  · simp [reverseVS, serviceFinds, hn]
  · simp only [policyFinds, Bool.or_eq_true]
    exact .inl (.inr (List.any_eq_true.mpr ⟨ps, hps, polReferenced_of_mem hr _⟩))
  · simp only [policyFinds, Bool.or_eq_true]
    exact .inr (List.any_eq_true.mpr ⟨x, hx, List.any_eq_true.mpr ⟨ps, hps, polReferenced_of_mem hr _⟩⟩)
  · simp only [reverseVS, serviceFinds, Bool.or_eq_true]
    exact .inr (List.any_eq_true.mpr ⟨x, hx, by simp [hn]⟩)

/-- **forward ⊆ reverse for TransportServers** (upstream and backup Services, TLS Secret). -/
theorem forward_subset_reverse_ts (t : TS) : ∀ d ∈ forwardTS t, reverseTS t d = true := by
  simp only [forwardTS, List.forall_mem_append, List.forall_mem_flatMap, forall_mem_opt]
  exact ⟨upstreamDeps_found fun n hn => by simp [reverseTS, hn], fun h => by simp [reverseTS, h]⟩

/-- **forward ⊆ reverse for Ingresses** (regular, master with minions): TLS Secrets, backend
Services, JWT / basic-auth Secrets of the Ingress and of its minions, App Protect annotations. -/
theorem forward_subset_reverse_ing (i : Ing) (ms : List Ing) : ∀ d ∈ forwardIng i ms, reverseIng i ms d = true := by
  simp only [forwardIng, if_true, Bool.false_eq_true, if_false, List.nil_append, List.forall_mem_append,
    List.forall_mem_flatMap, List.forall_mem_map, forall_mem_opt]
  refine ⟨⟨⟨⟨⟨⟨?_, ?_⟩, ?_⟩, ?_⟩, ?_⟩, ?_⟩, fun m hm => ⟨⟨?_, ?_⟩, ?_⟩⟩
  · exact fun s hs => by simp [reverseIng, hs]
  · exact fun h => by simp [reverseIng, h]
  · exact fun h => by simp [reverseIng, h]
  · exact fun s hs => by simp [reverseIng, hs]
  · exact fun h => by simp [reverseIng, h]
  · exact fun l hl => List.any_eq_true.mpr ⟨l, hl, by simp⟩
  -- the three kinds of entry a minion `m` contributes
  all_goals
    intros
    simp only [reverseIng, Bool.or_eq_true]
    exact .inr (List.any_eq_true.mpr ⟨m, hm, by simp [*]⟩)

end Nic.Refs
