/-
  C20 — derived Certificates / DNSEndpoints track their VirtualServer and spare foreign ones.
-/
import Nic.Model.Derived
import Nic.Lemmas.Map

namespace Nic.Derived
open Nic.Arb (Map)
open Nic.Arb.Map (Sorted)

section
variable {σ : Type}

/-- The object an action writes or deletes. -/
def Action.target : Action σ → String
  | .create n _ => n
  | .update n _ => n
  | .delete n => n

theorem apply_get?_ne (c : Map (Obj σ)) (a : Action σ) (k : String) (hk : k ≠ a.target) :
    (apply c a).get? k = c.get? k := by
  cases a with
  | create n s | update n s => exact Map.get?_set_ne _ _ _ _ hk
  | delete n => exact Map.get?_erase_ne _ _ _ hk

theorem run_get?_ne (c : Map (Obj σ)) (as : List (Action σ)) (k : String) (h : ∀ a ∈ as, a.target ≠ k) :
    (run c as).get? k = c.get? k :=
  List.foldlRecOn as apply (motive := fun c' => c'.get? k = c.get? k) rfl
    fun c' hc a ha => (apply_get?_ne c' a k (h a ha).symm).trans hc

theorem run_foreign_untouched (c : Map (Obj σ)) (as : List (Action σ))
    (hsafe : ∀ a ∈ as, ∀ o, c.get? a.target = some o → o.owner = .own) (k : String) (o : Obj σ)
    (h : c.get? k = some o) (ho : o.owner ≠ .own) : (run c as).get? k = some o :=
  (run_get?_ne c as k fun a ha hk => ho (hsafe a ha o (hk ▸ h))).trans h

theorem run_sorted (c : Map (Obj σ)) (as : List (Action σ)) (hs : Sorted c) : Sorted (run c as) :=
  List.foldlRecOn as apply hs fun c' hc a _ => by
    cases a with
    | create n s | update n s => exact Map.set_sorted _ _ _ hc
    | delete n => exact Map.erase_sorted _ _ hc

theorem run_append (c : Map (Obj σ)) (a b : List (Action σ)) : run c (a ++ b) = run (run c a) b :=
  List.foldl_append

theorem garbage_eq_nil (c : Map (Obj σ)) (keep : String) (h : ∀ k o, (k, o) ∈ c → o.owner = .own → k = keep) :
    garbage c keep = [] := by
  simp only [garbage, List.map_eq_nil_iff, List.filter_eq_nil_iff, Bool.and_eq_true, decide_eq_true_eq]
  exact fun kv hm hp => hp.2 (h kv.1 kv.2 hm hp.1)

end

variable {σ : Type} [DecidableEq σ]

/-! ### the writes for one name -/

/-- The cluster after the writes for one name. -/
theorem upsert_result (c : Map (Obj σ)) (name : String) (want : σ) :
    (run c (upsert c name want)).get? name =
      match c.get? name with
      | none => some ⟨.own, want⟩
      | some o => if o.owner = .own then some ⟨.own, want⟩ else some o := by
  unfold upsert run
  cases h : c.get? name with
  | none => exact Map.get?_set_self _ _ _
  | some o =>
    dsimp only
    by_cases ho : o.owner = .own
    · rw [if_neg (not_not_intro ho), if_pos ho]
      by_cases hs : o.spec = want
      · rw [if_neg (not_not_intro hs), List.foldl_nil, h, ← ho, ← hs]
      · rw [if_pos hs]; exact Map.get?_set_self _ _ _
    · rw [if_pos ho, if_neg ho, List.foldl_nil, h]

section
omit [DecidableEq σ]

/-- What `upsert` leaves under the name: the desired object, unless a foreign one is in the way. -/
def written (cur : Option (Obj σ)) (want : σ) : Option (Obj σ) :=
  match cur with
  | none => some ⟨.own, want⟩
  | some o => if o.owner = .own then some ⟨.own, want⟩ else some o

theorem written_of_free_or_own (cur : Option (Obj σ)) (want : σ) (h : cur = none ∨ ∃ o, cur = some o ∧ o.owner = .own) :
    written cur want = some ⟨.own, want⟩ := by
  rcases h with rfl | ⟨o, rfl, ho⟩
  · rfl
  · exact if_pos ho

theorem written_settled (cur : Option (Obj σ)) (want : σ) :
    ∃ o, written cur want = some o ∧ (o.owner = .own → o.spec = want) := by
  cases cur with
  | none => exact ⟨_, rfl, fun _ => rfl⟩
  | some o =>
    by_cases ho : o.owner = .own
    · exact ⟨_, if_pos ho, fun _ => rfl⟩
    · exact ⟨o, if_neg ho, fun h => absurd h ho⟩

end

theorem upsert_eq_nil (c : Map (Obj σ)) (name : String) (want : σ) (o : Obj σ) (hc : c.get? name = some o)
    (ho : o.owner = .own → o.spec = want) : upsert c name want = [] := by
  unfold upsert; rw [hc]
  by_cases h : o.owner = .own
  · exact (if_neg (not_not_intro h)).trans (if_neg (not_not_intro (ho h)))
  · exact if_pos h

theorem upsert_targets (c : Map (Obj σ)) (name : String) (want : σ) (a : Action σ) (ha : a ∈ upsert c name want) :
    a.target = name ∧ ∀ o, c.get? a.target = some o → o.owner = .own := by
  have ht : a.target = name := by
    unfold upsert at ha
    split at ha
    · rw [List.mem_singleton.mp ha]; rfl
    · split at ha
      · cases ha
      · split at ha
        · rw [List.mem_singleton.mp ha]; rfl
        · cases ha
  refine ⟨ht, fun o hc => Decidable.by_contra fun ho => ?_⟩
  rw [upsert_eq_nil c name want o (ht ▸ hc) fun h => absurd h ho] at ha; cases ha

theorem upsert_other (c : Map (Obj σ)) (name : String) (want : σ) (k : String) (hk : k ≠ name) :
    (run c (upsert c name want)).get? k = c.get? k :=
  run_get?_ne c _ k fun a ha e => hk ((upsert_targets c name want a ha).1.symm.trans e).symm

/-- **Freshness**: after the writes, the object under `name` — if the name was free or the object
was controlled by this VirtualServer — is exactly the desired one. -/
theorem fresh (c : Map (Obj σ)) (name : String) (want : σ)
    (h : c.get? name = none ∨ ∃ o, c.get? name = some o ∧ o.owner = .own) :
    ∃ o, (run c (upsert c name want)).get? name = some o ∧ o.owner = .own ∧ o.spec = want :=
  ⟨_, (upsert_result c name want).trans (written_of_free_or_own _ want h), rfl, rfl⟩

/-- **Idempotence**: once the writes for a name have been applied, a second pass performs no write. -/
theorem upsert_idempotent (c : Map (Obj σ)) (name : String) (want : σ) :
    upsert (run c (upsert c name want)) name want = [] := by
  obtain ⟨o, ho, hs⟩ := written_settled (c.get? name) want
  exact upsert_eq_nil _ name want o ((upsert_result c name want).trans ho) hs

/-- **Foreign objects are never updated or deleted** by the writes for a name — whatever the cluster
contains: every object that is not controlled by this VirtualServer is still there, unchanged. -/
theorem upsert_foreign_untouched (c : Map (Obj σ)) (name : String) (want : σ) (k : String) (o : Obj σ)
    (h : c.get? k = some o) (ho : o.owner ≠ .own) : (run c (upsert c name want)).get? k = some o :=
  run_foreign_untouched c _ (fun a ha => (upsert_targets c name want a ha).2) k o h ho

/-! ### garbage collection -/

/-- **Garbage collection is exact**: it deletes precisely the objects controlled by this
VirtualServer that are not the one it needs; every other object — in particular every foreign one —
stays as it is. (`hs` and `hu`: lookup and membership agree on `c`, which is what `Sorted c` gives.) -/
theorem garbage_exact (c : Map (Obj σ)) (keep : String) (k : String) (hs : ∀ k o, c.get? k = some o → (k, o) ∈ c)
    (hu : ∀ k o, (k, o) ∈ c → c.get? k = some o) :
    (run c (garbage c keep)).get? k =
      match c.get? k with
      | some o => if o.owner = .own ∧ k ≠ keep then none else some o
      | none => none := by
  have hrun : run c (garbage c keep) =
      (c.filter fun kv => kv.2.owner = .own && kv.1 ≠ keep).foldl (fun m kv => m.erase kv.1) c := List.foldl_map
  have hmem : k ∈ (c.filter fun kv => kv.2.owner = .own && kv.1 ≠ keep).map (·.1) ↔
      ∃ o, c.get? k = some o ∧ o.owner = .own ∧ k ≠ keep := by
    simp only [Map.mem_keys_filter, Bool.and_eq_true, decide_eq_true_eq]
    exact ⟨fun ⟨o, hm, ho⟩ => ⟨o, hu _ _ hm, ho⟩, fun ⟨o, hg, ho⟩ => ⟨o, hs _ _ hg, ho⟩⟩
  rw [hrun, Map.get?_foldl_erase fun kv : String × Obj σ => kv.1]
  cases hk : c.get? k with
  | none => exact if_neg fun hm => by obtain ⟨o, ho, _⟩ := hmem.1 hm; rw [hk] at ho; cases ho
  | some o => simp only [hmem, hk, Option.some.injEq, exists_eq_left']

/-! ### one whole synchronisation, and synchronisations interrupted by API errors -/

/-- **The cluster after one successful synchronisation of the cert-manager side**, key by key: under the needed name, the desired
object (unless somebody else's object is in the way, which stays); under every other name, only what this VirtualServer does not control. -/
theorem syncCert_result (c : Map (Obj σ)) (hs : Sorted c) (name : String) (want : σ) (k : String) :
    (run c (syncCert c (some (name, want)))).get? k =
      if k = name then
        (match c.get? name with
         | none => some ⟨.own, want⟩
         | some o => if o.owner = .own then some ⟨.own, want⟩ else some o)
      else
        (match c.get? k with
         | some o => if o.owner = .own then none else some o
         | none => none) := by
  show (run c (upsert c name want ++ garbage (run c (upsert c name want)) name)).get? k = _
  rw [run_append, garbage_exact _ name k (Map.mem_of_get? _) (Map.get?_of_mem _ (run_sorted _ _ hs))]
  by_cases hk : k = name
  · subst hk
    rw [if_pos rfl, ← upsert_result]
    cases (run c (upsert c k want)).get? k with
    | none => rfl
    | some o => exact if_neg fun h => h.2 rfl
  · rw [if_neg hk, upsert_other c name want k hk]
    cases c.get? k with
    | none => rfl
    | some o => simp only [hk, ne_eq, not_false_eq_true, and_true]

/-- **Objects it no longer needs are removed**: after a synchronisation the VirtualServer controls nothing but the needed object. -/
theorem syncCert_nothing_left (c : Map (Obj σ)) (hs : Sorted c) (name : String) (want : σ) (k : String) (o : Obj σ)
    (h : (run c (syncCert c (some (name, want)))).get? k = some o) (ho : o.owner = .own) : k = name ∧ o.spec = want := by
  rw [syncCert_result c hs name want k] at h
  by_cases hk : k = name
  · obtain ⟨o', ho', hs'⟩ := written_settled (c.get? name) want
    cases ho'.symm.trans ((if_pos hk).symm.trans h)
    exact ⟨hk, hs' ho⟩
  · rw [if_neg hk] at h
    split at h
    · split at h
      · cases h
      · cases h; exact absurd ho ‹_›
    · cases h

/-- **The object equals what a first-time synchronisation would have created**: whatever the cluster held before (older versions,
left-overs of interrupted synchronisations), the needed object — unless a foreign one is in the way — is the one an empty cluster gets. -/
theorem syncCert_as_first_time (c : Map (Obj σ)) (hs : Sorted c) (name : String) (want : σ)
    (h : c.get? name = none ∨ ∃ o, c.get? name = some o ∧ o.owner = .own) :
    (run c (syncCert c (some (name, want)))).get? name = (run ([] : Map (Obj σ)) (syncCert [] (some (name, want)))).get? name := by
  rw [syncCert_result c hs, syncCert_result [] Map.sorted_nil, if_pos rfl, if_pos rfl]
  exact written_of_free_or_own _ want h

/-- **After a successful synchronisation a second one performs no writes.** -/
theorem syncCert_idempotent (c : Map (Obj σ)) (hs : Sorted c) (d : Option (String × σ)) :
    syncCert (run c (syncCert c d)) d = [] := by
  obtain _ | ⟨name, want⟩ := d
  · rfl
  · obtain ⟨o, ho, hsp⟩ := written_settled (c.get? name) want
    have hup := upsert_eq_nil _ name want o ((syncCert_result c hs name want name).trans ((if_pos rfl).trans ho)) hsp
    show upsert _ name want ++ garbage (run _ (upsert _ name want)) name = []
    rw [hup, List.nil_append]
    exact garbage_eq_nil _ name fun k x hm hx =>
      (syncCert_nothing_left c hs name want k x (Map.get?_of_mem _ (run_sorted _ _ hs) k x hm) hx).1

/-- Every write of a synchronisation is aimed at a free name or at an object this VirtualServer controls. -/
theorem syncCert_targets (c : Map (Obj σ)) (hs : Sorted c) (d : Option (String × σ)) (a : Action σ) (ha : a ∈ syncCert c d)
    (o : Obj σ) (h : c.get? a.target = some o) : o.owner = .own := by
  obtain _ | ⟨name, want⟩ := d
  · cases ha
  · rcases List.mem_append.mp ha with ha | ha
    · exact (upsert_targets c name want a ha).2 o h
    · obtain ⟨⟨k, x⟩, hf, rfl⟩ := List.mem_map.mp ha
      obtain ⟨hm, hx⟩ := List.mem_filter.mp hf
      simp only [Bool.and_eq_true, decide_eq_true_eq] at hx
      have hget := Map.get?_of_mem _ (run_sorted c (upsert c name want) hs) k x hm
      rw [upsert_other c name want k hx.2] at hget
      cases hget.symm.trans h
      exact hx.1

/-- **API errors**: whichever of the writes of a synchronisation fail (conflict, already-exists, …) — any sub-sequence `done` of them
is carried out — no object that is not controlled by this VirtualServer is updated or deleted, and the next successful
synchronisation ends in the same state for the needed object as a first-time one (`syncCert_as_first_time` holds for every cluster). -/
theorem interrupted_sync_foreign_untouched (c : Map (Obj σ)) (hs : Sorted c) (d : Option (String × σ)) (done : List (Action σ))
    (hsub : done.Sublist (syncCert c d)) (k : String) (o : Obj σ) (h : c.get? k = some o) (ho : o.owner ≠ .own) :
    (run c done).get? k = some o :=
  run_foreign_untouched c done (fun a ha => syncCert_targets c hs d a (hsub.subset ha)) k o h ho

/-- **Objects that are not controlled by this VirtualServer are never updated or deleted** by a whole synchronisation. -/
theorem syncCert_foreign_untouched (c : Map (Obj σ)) (hs : Sorted c) (d : Option (String × σ)) (k : String) (o : Obj σ)
    (h : c.get? k = some o) (ho : o.owner ≠ .own) : (run c (syncCert c d)).get? k = some o :=
  interrupted_sync_foreign_untouched c hs d _ (List.Sublist.refl _) k o h ho

/-- The ExternalDNS side: one object, named after the VirtualServer; same guarantees. -/
theorem syncDns_idempotent (c : Map (Obj σ)) (name : String) (d : Option σ) : syncDns (run c (syncDns c name d)) name d = [] := by
  cases d with
  | none => rfl
  | some want => exact upsert_idempotent c name want

theorem syncDns_foreign_untouched (c : Map (Obj σ)) (name : String) (d : Option σ) (k : String) (o : Obj σ)
    (h : c.get? k = some o) (ho : o.owner ≠ .own) : (run c (syncDns c name d)).get? k = some o := by
  cases d with
  | none => exact h
  | some want => exact upsert_foreign_untouched c name want k o h ho

theorem syncDns_as_first_time (c : Map (Obj σ)) (name : String) (want : σ)
    (h : c.get? name = none ∨ ∃ o, c.get? name = some o ∧ o.owner = .own) :
    (run c (syncDns c name (some want))).get? name = (run ([] : Map (Obj σ)) (syncDns [] name (some want))).get? name :=
  (upsert_result c name want).trans ((written_of_free_or_own _ want h).trans (upsert_result [] name want).symm)

/-! ### non-vacuity -/
example : (syncCert ([("s1", ⟨.own, "v1"⟩), ("s0", ⟨.own, "v0"⟩), ("x", ⟨.other, "f"⟩)] : Map (Obj String)) (some ("s1", "v2"))).length = 2 := by decide
example : syncCert ([("s1", ⟨.none, "f"⟩)] : Map (Obj String)) (some ("s1", "v2")) = [] := by decide

end Nic.Derived
