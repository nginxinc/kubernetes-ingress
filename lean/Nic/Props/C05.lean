/-
  C05 — every resource not serving traffic has been told why; active ones are not.
  Property theorems over the arbitration model and the reporting model
  (Nic/Model/Report.lean).  The accumulated "latest report per object" statement
  over whole histories is decided on the real reporting functions by the oracle in
  props/C05.py; the theorems below are the facts that make it hold step by step.
-/
import Nic.Lemmas.StepFacts
import Nic.Model.Report

namespace Nic.Arb

/-- **The problem table is recomputed from the object set on every rebuild** — it is not
patched incrementally, so a cause that persists stays recorded and a cause that vanished is gone. -/
theorem problems_full_recompute (s : State) :
    (rebuildHosts s).1.hostProblems = hostProblemsOf s.toObjs := by
  rw [rebuildHosts_state]

/-- **Delta soundness.** A problem of the new table that is *not* in the emitted delta is
identical (error flag, reason, message) to the problem previously recorded — and hence
previously emitted — under the same key; every other problem of the new table is emitted. -/
theorem delta_sound (new old : Map Problem) (k : String) (p : Problem) (h : (k, p) ∈ new) :
    p ∈ detectProblemChanges new old ∨
      ∃ o, old.get? k = some o ∧ p.isError = o.isError ∧ p.reason = o.reason ∧ p.msg = o.msg := by
  unfold detectProblemChanges
  cases ho : old.get? k with
  | none => exact .inl (List.mem_filterMap.mpr ⟨(k, p), h, by simp [ho]⟩)
  | some o =>
    by_cases hs : p.isError = o.isError ∧ p.reason = o.reason ∧ p.msg = o.msg
    · exact .inr ⟨o, rfl, hs⟩
    · refine .inl (List.mem_filterMap.mpr ⟨(k, p), h, ?_⟩)
      simp only [ho]
      exact if_neg (by simpa [and_assoc] using hs)

/-- Nothing is emitted that is not in the new table. -/
theorem delta_subset (new old : Map Problem) (p : Problem) (h : p ∈ detectProblemChanges new old) :
    ∃ k, (k, p) ∈ new := by
  unfold detectProblemChanges at h
  obtain ⟨⟨k, q⟩, hm, he⟩ := List.mem_filterMap.mp h
  refine ⟨k, ?_⟩
  cases ho : old.get? k with
  | none => simp [ho] at he; subst he; exact hm
  | some o =>
    simp only [ho] at he
    split at he
    · cases he
    · simp at he; subst he; exact hm

private theorem attachGo_marks (kk : String) (cs : List Change) (h : cs.any (fun c => c.res.key = kk) = true) :
    ∃ c ∈ attachError.go kk cs, c.res.key = kk ∧ c.err = true := by
  induction cs with
  | nil => cases h
  | cons c r ih =>
    unfold attachError.go
    by_cases hk : c.res.key = kk
    · rw [if_pos hk]; exact ⟨_, List.mem_cons_self, hk, rfl⟩
    · rw [if_neg hk]
      rw [List.any_cons, decide_eq_false hk, Bool.false_or] at h
      obtain ⟨x, hx, hx'⟩ := ih h
      exact ⟨x, List.mem_cons_of_mem _ hx, hx'⟩

/-- The error of the object being processed is attached to the change that removes it, or — when
no change concerns it — raised as an error problem. -/
theorem attachError_reports (kk : String) (cs : List Change) (ps : List Problem) :
    (∃ c ∈ (attachError kk cs ps).1, c.res.key = kk ∧ c.err = true) ∨
    (⟨kk, true, "Rejected", "validation-error"⟩ ∈ (attachError kk cs ps).2) := by
  unfold attachError
  split
  · rename_i h; left; exact attachGo_marks kk cs h
  · right; simp

/-- **A validation error of the resource being processed is always reported for that event**:
for an Ingress, VirtualServer or TransportServer of our class that fails validation, the batch
contains a change for it carrying the error, or an error problem for it; for a
VirtualServerRoute always the problem. -/
theorem validation_error_reported_ing (perm) (s : State) (i : Ing) :
    let r := step perm s (.ing i true false)
    (∃ c ∈ r.2.1, c.res.key = "Ingress/" ++ i.md.key ∧ c.err = true) ∨
    (⟨"Ingress/" ++ i.md.key, true, "Rejected", "validation-error"⟩ ∈ r.2.2) := by
  simp only [step, Bool.true_and, Bool.not_false, if_true]
  exact attachError_reports _ _ _

theorem validation_error_reported_vs (perm) (s : State) (v : VS) :
    let r := step perm s (.vs v true false)
    (∃ c ∈ r.2.1, c.res.key = "VirtualServer/" ++ v.md.key ∧ c.err = true) ∨
    (⟨"VirtualServer/" ++ v.md.key, true, "Rejected", "validation-error"⟩ ∈ r.2.2) := by
  simp only [step, Bool.true_and, Bool.not_false, if_true]
  exact attachError_reports _ _ _

theorem validation_error_reported_ts (perm) (s : State) (t : TS) :
    let r := step perm s (.ts t true false)
    (∃ c ∈ r.2.1, c.res.key = "TransportServer/" ++ t.md.key ∧ c.err = true) ∨
    (⟨"TransportServer/" ++ t.md.key, true, "Rejected", "validation-error"⟩ ∈ r.2.2) := by
  simp only [step, Bool.true_and, Bool.not_false, if_true]
  exact attachError_reports _ _ _

theorem validation_error_reported_vsr (perm) (s : State) (x : VSR) :
    ⟨"VirtualServerRoute/" ++ x.md.key, true, "Rejected", "validation-error"⟩ ∈ (step perm s (.vsr x true false)).2.2 := by
  simp [step]

/-! ### the reporting glue -/

/-- A removal that carries an error (and is not the removal of the deleted object itself) is reported as a
rejection, whatever warnings it has. -/
theorem error_change_rejected (gone : String) (c : Change) (h : c.op = .delete) (he : c.err = true)
    (hg : c.res.key ≠ gone) :
    changeEvents gone c = [⟨c.res.key, "Warning", "Rejected", ["validation-error"]⟩] := by
  unfold changeEvents; simp [h, he, hg]

/-- A removal is silent only if it carries neither an error nor a warning (or the object itself
was deleted from the cluster): a resource that lost its host, listener or validity is told so. -/
theorem delete_silent_iff (gone : String) (c : Change) (h : c.op = .delete) :
    changeEvents gone c = [] ↔ (c.res.key = gone ∨ (c.err = false ∧ c.res.warnings = [])) := by
  unfold changeEvents
  simp only [h]
  by_cases hg : c.res.key = gone
  · simp [hg]
  · simp only [hg, if_false, false_or]
    cases c.err with
    | true => simp
    | false => cases c.res.warnings <;> simp

theorem okOrWarn_key (k : String) (ws : List String) : (okOrWarn k ws).key = k := by
  unfold okOrWarn; split <;> rfl

theorem okOrWarn_reason (k : String) (ws : List String) :
    (okOrWarn k ws).reason = "AddedOrUpdated" ∨ (okOrWarn k ws).reason = "AddedOrUpdatedWithWarning" := by
  unfold okOrWarn; split
  · exact Or.inl rfl
  · exact Or.inr rfl

/-- **Every AddOrUpdate yields a fresh success report** for the resource itself (with its warnings
if it has any), for each minion of a master and for each attached VirtualServerRoute. -/
theorem update_reports_positive (gone : String) (c : Change) (h : c.op = .update) :
    ∃ e rest, changeEvents gone c = e :: rest ∧ e.key = c.res.key ∧
      (e.reason = "AddedOrUpdated" ∨ e.reason = "AddedOrUpdatedWithWarning") := by
  unfold changeEvents
  simp only [h]
  cases c.res <;> exact ⟨_, _, rfl, okOrWarn_key _ _, okOrWarn_reason _ _⟩

theorem minions_reported (gone : String) (c : Change) (i : IngCfg) (h : c.op = .update)
    (hr : c.res = .ing i) (hm : i.isMaster = true) (m : MinionCfg) (hmem : m ∈ i.minions) :
    ∃ e ∈ changeEvents gone c, e.key = "Ingress/" ++ m.md.key ∧
      (e.reason = "AddedOrUpdated" ∨ e.reason = "AddedOrUpdatedWithWarning") := by
  unfold changeEvents
  simp only [h, hr, hm, if_true]
  exact ⟨_, List.mem_cons_of_mem _ (List.mem_map.mpr ⟨m, hmem, rfl⟩), okOrWarn_key _ _, okOrWarn_reason _ _⟩

theorem routes_reported (gone : String) (c : Change) (v : VSCfg) (h : c.op = .update)
    (hr : c.res = .vs v) (x : Meta) (hmem : x ∈ v.vsrs) :
    ⟨"VirtualServerRoute/" ++ x.key, "Normal", "AddedOrUpdated", []⟩ ∈ changeEvents gone c := by
  unfold changeEvents
  simp only [h, hr]
  exact List.mem_cons_of_mem _ (List.mem_map.mpr ⟨x, hmem, rfl⟩)

/-- Every problem of the batch is reported to its object with its reason and message. -/
theorem problems_reported (gone : String) (cs : List Change) (ps : List Problem) (p : Problem) (h : p ∈ ps) :
    ⟨p.key, "Warning", p.reason, [p.msg]⟩ ∈ eventsOf gone cs ps := by
  unfold eventsOf
  exact List.mem_append_right _ (List.mem_map.mpr ⟨p, h, rfl⟩)

end Nic.Arb
