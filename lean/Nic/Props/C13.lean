/-
  C13 — a reload is acknowledged only after NGINX serves the new configuration
  version.  Property theorems only; the model is Nic/Model/Verify.lean.
-/
import Nic.Model.Verify

namespace Nic.Verify

/-- Time consumed by a prefix of the schedule none of whose polls returned. -/
def elapsed (e : Int) (T i : Nat) (pre : List Poll) : Nat :=
  (pre.map (stepTime e T i)).sum

/-! ### one poll -/

section
variable {e : Int} {T : Nat} {p : Poll}

theorem outcome_slow (h : T ≤ p.cost) : outcome e T p = .error :=
  if_pos h

theorem outcome_timely (h : outcome e T p ≠ .error) : p.cost < T :=
  Nat.lt_of_not_le fun hc => h (outcome_slow hc)

/-- A poll counts iff it is a timely HTTP 200 whose body `strconv.Atoi` parses to exactly the
expected version. -/
theorem outcome_eq_hit_iff :
    outcome e T p = .hit ↔ p.cost < T ∧ ∃ s, p.ans = .body s ∧ atoi s = some e := by
  by_cases hc : T ≤ p.cost
  · simp [outcome_slow hc, Nat.not_lt.mpr hc]
  · obtain ⟨a, c⟩ := p
    cases a with
    | body s => cases hv : atoi s <;> simp [outcome, hc, hv, Nat.lt_of_not_le hc]
    | non200 => simp [outcome, hc]
    | err => simp [outcome, hc]

theorem stepTime_le {i : Nat} : stepTime e T i p ≤ T + i := by
  unfold stepTime
  split
  · exact Nat.add_le_add_right (Nat.le_of_lt (outcome_timely (by rw [‹outcome e T p = _›]; nofun))) i
  · exact Nat.le_trans (Nat.min_le_right ..) (Nat.le_add_right ..)

end

/-- Errors, non-200 answers, garbage and other versions never count. -/
theorem stale_error_garbage_never_count (e : Int) (T : Nat) (p : Poll) :
    (p.ans = .err ∨ p.ans = .non200 ∨ T ≤ p.cost ∨
      (∃ s, p.ans = .body s ∧ atoi s ≠ some e)) → outcome e T p ≠ .hit := by
  rw [Ne, outcome_eq_hit_iff]
  rintro (h | h | h | ⟨s', h, ha'⟩) ⟨hc, s, hs, ha⟩
  · cases h.symm.trans hs
  · cases h.symm.trans hs
  · exact Nat.not_le_of_lt hc h
  · cases h.symm.trans hs; exact ha' ha

/-! ### the wait loop -/

/-- A wait that starts at or after its deadline issues no poll that counts. -/
theorem expired_fails (e : Int) (T i t : Nat) (s : List Poll) (h : T ≤ t) :
    wait e T i t s = .fail := by
  cases s with
  | nil => rfl
  | cons a r => rw [wait, if_pos h]

section
variable {e : Int} {T i t : Nat} {pre : List Poll}

theorem elapsed_cons {a : Poll} : elapsed e T i (a :: pre) = stepTime e T i a + elapsed e T i pre :=
  rfl

/-- The loop invariant: polls that do not count only advance the clock. -/
theorem wait_skip {s : List Poll} (h : ∀ q ∈ pre, outcome e T q ≠ .hit) :
    wait e T i t (pre ++ s) = wait e T i (t + elapsed e T i pre) s := by
  induction pre generalizing t with
  | nil => rfl
  | cons a pre ih =>
    have ⟨ha, hpre⟩ := List.forall_mem_cons.mp h
    rw [List.cons_append, wait, if_neg ha, ih hpre, elapsed_cons, Nat.add_assoc]
    split
    · exact (expired_fails _ _ _ _ _ (Nat.le_add_right_of_le ‹_›)).symm
    · rfl

/-- The verdict is decided by the clock at the first poll that counts. -/
theorem wait_first_hit {post : List Poll} {p : Poll}
    (hpre : ∀ q ∈ pre, outcome e T q ≠ .hit) (hp : outcome e T p = .hit) :
    wait e T i t (pre ++ p :: post) = if T ≤ t + elapsed e T i pre then .fail else .ok := by
  rw [wait_skip hpre, wait, if_pos hp]

end

/-- If no answer in the schedule is the expected version, the wait fails —
whatever mixture of stale versions, errors, non-200 and garbage it sees. -/
theorem timeout_fails (e : Int) (T i t : Nat) (s : List Poll)
    (h : ∀ p ∈ s, outcome e T p ≠ .hit) : wait e T i t s = .fail := by
  rw [← s.append_nil, wait_skip h]; rfl

/-- **Main theorem.** The wait succeeds iff some poll issued strictly before the
deadline was answered (in time) with exactly the expected version, and no
earlier poll was. Holds for every schedule, timeout, interval and start time. -/
theorem wait_ok_iff (e : Int) (T i : Nat) (t : Nat) (s : List Poll) :
    wait e T i t s = .ok ↔
      ∃ pre p post, s = pre ++ p :: post ∧ (∀ q ∈ pre, outcome e T q ≠ .hit) ∧
        outcome e T p = .hit ∧ t + elapsed e T i pre < T := by
  constructor
  · intro h
    -- split the schedule at its first poll that counts, if any
    cases hf : s.find? (outcome e T · = .hit) with
    | none => rw [timeout_fails _ _ _ _ _ (by simpa using hf)] at h; cases h
    | some p =>
      obtain ⟨hp, pre, post, rfl, hpre⟩ := List.find?_eq_some_iff_append.mp hf
      have hp := of_decide_eq_true hp
      have hpre : ∀ q ∈ pre, outcome e T q ≠ .hit := by simpa using hpre
      refine ⟨pre, p, post, rfl, hpre, hp, Nat.lt_of_not_le fun hle => ?_⟩
      rw [wait_first_hit hpre hp, if_pos hle] at h
      cases h
  · rintro ⟨pre, p, post, rfl, hpre, hp, hlt⟩
    rw [wait_first_hit hpre hp, if_neg (Nat.not_le.mpr hlt)]

/-- The instrumented twin used by the correspondence driver has the same verdict. -/
theorem waitT_res (e : Int) (T i t n m : Nat) (s : List Poll) :
    (waitT e T i t n m s).res = wait e T i t s := by
  induction s generalizing t n m with
  | nil => rw [waitT]; split <;> rfl
  | cons a rest ih => rw [waitT, wait]; simp only [apply_ite Trace.res, ih]

/-- The last poll starts before `T`, takes at most `T`, and may be followed by one sleep. -/
theorem waitT_elapsed_le (e : Int) (T i t n m : Nat) (s : List Poll) (ht : t ≤ T + T + i) :
    (waitT e T i t n m s).elapsed ≤ T + T + i := by
  induction s generalizing t n m with
  | nil => rw [waitT]; split <;> simp only <;> omega
  | cons a rest ih =>
    rw [waitT]
    split
    · exact ht
    · split
      · have := outcome_timely (p := a) (by rw [‹outcome e T a = _›]; nofun)
        simp only; omega
      · have := @stepTime_le e T a i
        exact ih _ _ _ (by omega)

/-- The wait returns no later than deadline + one request timeout + one
interval (a poll may start just before the deadline). -/
theorem waitT_elapsed_bound (e : Int) (T i t n m : Nat) (s : List Poll) (ht : t ≤ T) :
    (waitT e T i t n m s).elapsed ≤ T + T + i :=
  waitT_elapsed_le e T i t n m s (by omega)

/-! ### version tags -/

/-- Tags produced by any sequence of reload attempts, whatever their outcome. -/
def tags (T i : Nat) : Mgr → List (Bool × List Poll) → List Nat
  | _, [] => []
  | m, (b, s) :: r => (reload T i m b s).2.tag :: tags T i (reload T i m b s).1 r

section
variable (T i : Nat) (m : Mgr) (b : Bool) (s : List Poll)

theorem reload_fst : (reload T i m b s).1 = ⟨m.ver + 1⟩ := by cases b <;> rfl

theorem reload_tag : (reload T i m b s).2.tag = m.ver + 1 := by cases b <;> rfl

theorem reload_file : (reload T i m b s).2.file = m.ver + 1 := by cases b <;> rfl

theorem reload_res :
    (reload T i m b s).2.res = if b then wait ((m.ver + 1 : Nat) : Int) T i 0 s else .fail := by
  cases b
  · rfl
  · exact waitT_res ..

end

theorem tags_eq (T i : Nat) (m : Mgr) (ops : List (Bool × List Poll)) :
    tags T i m ops = List.range' (m.ver + 1) ops.length := by
  induction ops generalizing m with
  | nil => rfl
  | cons a r ih => rw [tags, reload_tag, ih, reload_fst]; rfl

/-- **Every reload is tagged with a version strictly greater than all earlier
ones**, for every sequence of reload outcomes (binary failure, timeout, success). -/
theorem versions_strictly_increase (T i : Nat) (m : Mgr) (ops : List (Bool × List Poll)) :
    (tags T i m ops).Pairwise (· < ·) :=
  tags_eq T i m ops ▸ List.pairwise_lt_range'

/-- A reload reported as successful was confirmed by a worker answering exactly
the reload's own tag (and the version file carries that tag). -/
theorem reload_ok_confirmed (T i : Nat) (m : Mgr) (b : Bool) (s : List Poll)
    (h : (reload T i m b s).2.res = .ok) :
    b = true ∧ ∃ pre p post, s = pre ++ p :: post ∧
      outcome ((m.ver + 1 : Nat) : Int) T p = .hit ∧
      (∀ q ∈ pre, outcome ((m.ver + 1 : Nat) : Int) T q ≠ .hit) ∧
      (reload T i m b s).2.file = m.ver + 1 := by
  rw [reload_res] at h
  cases b with
  | false => cases h
  | true =>
    obtain ⟨pre, p, post, hs, hpre, hp, _⟩ := (wait_ok_iff _ T i 0 s).mp h
    exact ⟨rfl, pre, p, post, hs, hp, hpre, reload_file ..⟩

/-- Changes are pushed through the API only to a worker that confirms the
current version; the check always carries the current version. -/
theorem api_only_after_confirm (m : Mgr) (w : Option Nat) :
    ((update m w).apiCalled = true ↔ w = some m.ver) ∧ (update m w).header = m.ver :=
  ⟨decide_eq_true_iff, rfl⟩

/-! ### strconv.Atoi facts -/

theorem atoi_rejects_empty : atoi [] = none := rfl

theorem digitVal_range {c : Char} {d : Nat} (h : digitVal c = some d) : 48 ≤ c.toNat ∧ c.toNat ≤ 57 := by
  unfold digitVal at h
  split at h
  · assumption
  · cases h

theorem digits_all (s : List Char) (acc n : Nat) (h : digits s acc = some n) :
    ∀ c ∈ s, 48 ≤ c.toNat ∧ c.toNat ≤ 57 := by
  induction s generalizing acc with
  | nil => nofun
  | cons a r ih =>
    rw [digits] at h
    split at h
    · exact List.forall_mem_cons.mpr ⟨digitVal_range ‹_›, ih _ h⟩
    · cases h

theorem stripSign_eq {s ds : List Char} {neg : Bool} (h : stripSign s = (neg, ds)) :
    s = ds ∨ s = '-' :: ds ∨ s = '+' :: ds := by
  unfold stripSign at h
  split at h <;> cases h
  · exact .inr (.inl rfl)
  · exact .inr (.inr rfl)
  · exact .inl rfl

/-- Only an optional sign followed by decimal digits parses: leading or trailing white space
or a newline make the body garbage. -/
theorem atoi_shape (s : List Char) (v : Int) (h : atoi s = some v) :
    ∃ ds, ds ≠ [] ∧ (s = ds ∨ s = '-' :: ds ∨ s = '+' :: ds) ∧
      ∀ c ∈ ds, 48 ≤ c.toNat ∧ c.toNat ≤ 57 := by
  unfold atoi at h
  split at h
  rename_i neg ds hs
  split at h
  · cases h
  · split at h
    · cases h
    · exact ⟨ds, ‹_›, stripSign_eq hs, digits_all ds 0 _ ‹_›⟩

/-! ### non-vacuity: the hypotheses above are met by concrete schedules -/

private def p5 : Poll := ⟨.body ['5'], 0⟩
private def p4 : Poll := ⟨.body ['4'], 0⟩
private def pe : Poll := ⟨.err, 10⟩
private def pg : Poll := ⟨.body ['5', '\n'], 0⟩

example : wait 5 300 25 0 [p4, pe, pg, p5] = .ok := by decide
example : wait 5 300 25 0 [p4, pe, pg, p4] = .fail := by decide
example : wait 5 50 25 0 [p4, p4, p4, p5] = .fail := by decide   -- 3 × 25 ms of sleeping pass the deadline
example : atoi ['+', '0', '5'] = some 5 := by decide
example : atoi [' ', '5'] = none := by decide
example : tags 300 25 {} [(false, []), (true, [p4]), (true, [⟨.body ['3'], 0⟩])] = [1, 2, 3] := by decide

/-! ### the connection the requests travel on -/

/-- At the level of connections, an API request is sent only when the worker on the first
connection confirmed the current version, and then to that worker: no request is ever served by a worker that did not confirm —
whatever generations of workers sit behind later connections. -/
theorem api_only_to_confirming_worker (m : Mgr) (ws : List (Option Nat)) :
    (updateConn m ws).unconfirmed = 0 ∧ ((updateConn m ws).apiSeen = true → ws.head? = some (some m.ver)) := by
  cases ws with
  | nil => exact ⟨rfl, nofun⟩
  | cons w rest =>
    rw [updateConn]
    split
    · exact ⟨rfl, fun _ => congrArg some ‹_›⟩
    · exact ⟨rfl, nofun⟩

example : (updateConn { ver := 3 } [some 3, some 2]).apiSeen = true := by decide
example : (updateConn { ver := 3 } [some 2, some 3]).apiSeen = false := by decide

end Nic.Verify
