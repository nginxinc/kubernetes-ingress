/-
  C07 — kernel-checked instances of the template analysis.

  `wellFormedForAll <template> = true` is evaluated by the compiled driver for all eight templates on every run (§13 of DESIGN.md).
  For the two TransportServer templates the same evaluation is also done by Lean's kernel (`decide +kernel`: definitional
  unfolding only, no native code, no extra axiom), so that for them the chain

      template text in /repo  →  regenerated term  →  wellFormedForAll = true (kernel)  →  template_analysis_sound (kernel)

  needs no trust in the compiler. The larger templates are out of reach of the kernel evaluator in a routine run (it reads
  a template a few dozen characters per second) and stay with the driver.
-/
import Nic.Props.C07
import Nic.Gen.Templates

namespace Nic.Props.C07Tmpl
open Nic.NgxLex Nic.Tmpl Nic.Gen.Templates

theorem transportserver_template_wellformed : wellFormedForAll nginx_transportserver = true := by decide +kernel

theorem transportserver_plus_template_wellformed : wellFormedForAll nginx_plus_transportserver = true := by decide +kernel

/-- **every rendering of the TransportServer templates is lexically well formed** — for all TransportServers, upstream sets and
parameter values of the expected lexical classes. -/
theorem transportserver_renderings_wellformed (cs : List Char) (h : RenderTL nginx_transportserver init cs) : wellFormed cs = true :=
  Nic.Props.C07.template_analysis_sound _ transportserver_template_wellformed cs h

theorem transportserver_plus_renderings_wellformed (cs : List Char) (h : RenderTL nginx_plus_transportserver init cs) :
    wellFormed cs = true :=
  Nic.Props.C07.template_analysis_sound _ transportserver_plus_template_wellformed cs h

end Nic.Props.C07Tmpl
