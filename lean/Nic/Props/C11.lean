/-
  C11 — secret material on disk is always the latest valid version, and vanishes with it.
-/
import Nic.Model.Secrets
import Nic.Lemmas.Map

namespace Nic.Sec
open Nic.Arb (Map)

/-- Types whose material is written to a single file `<ns>-<name>`. -/
def SingleFile (t : Typ) : Prop := t = .tls ∨ t = .jwk ∨ t = .htp ∨ t = .other

/-- **A lookup of a missing or invalid Secret reports the error and writes nothing.** -/
theorem lookup_reports_error (s : St) (key : String)
    (h : s.store.get? key = none ∨ ∃ e, s.store.get? key = some e ∧ e.valid = false) :
    ∃ g, (step s (.get key)).2 = some g ∧ g.isError = true ∧ (step s (.get key)).1.dir = s.dir := by
  rcases h with h | ⟨e, he, hv⟩
  · simp [step, h]
  · simp [step, he, hv]

/-- A lookup of a valid Secret never reports an error, and hands out a path for file-bearing types. -/
theorem lookup_valid_ok (s : St) (key : String) (e : Entry) (he : s.store.get? key = some e) (hv : e.valid = true) :
    ∃ g, (step s (.get key)).2 = some g ∧ g.isError = false := by
  cases hp : e.hasPath <;> simp [step, he, hv, hp]

/-- **Lazy materialisation**: adding or updating a Secret that no resource has asked for writes nothing. -/
theorem lazy_write (s : St) (key : String) (t : Typ) (ver : Nat) (valid : Bool)
    (h : s.store.get? key = none ∨ ∃ e, s.store.get? key = some e ∧ e.hasPath = false) :
    (step s (.add key t ver valid)).1.dir = s.dir := by
  rcases h with h | ⟨e, he, hp⟩
  · simp [step, h]
  · simp [step, he, hp]

/-- **Files carry the current version.** Whatever `writeFiles` puts on disk for a Secret is labelled
with exactly the version being stored — there is no path by which an older version is (re)written. -/
theorem written_is_current (dir : Map File) (key : String) (e : Entry) (f : String) (x : File)
    (h : (writeFiles dir key e).1.get? f = some x) (hnew : dir.get? f ≠ some x) :
    x.key = key ∧ x.ver = e.ver := by
  have set1 : ∀ (d : Map File) n p m, (d.set n ⟨key, e.ver, p, m⟩).get? f = some x →
      d.get? f = some x ∨ (x.key = key ∧ x.ver = e.ver) := by
    intro d n p m; rw [Map.get?_set]; split
    · intro h; cases h; exact .inr ⟨rfl, rfl⟩
    · exact .inl
  have hw : (writeFiles dir key e).1.get? f = some x → dir.get? f = some x ∨ (x.key = key ∧ x.ver = e.ver) := by
    unfold writeFiles; split
    · exact fun h => (set1 _ _ _ _ h).elim (set1 _ _ _ _) .inr
    · exact set1 _ _ _ _
    · exact set1 _ _ _ _
    · exact .inl
    · exact .inl
    · exact set1 _ _ _ _
  exact (hw h).resolve_left hnew

theorem deleteFiles_self (dir : Map File) (key : String) : (deleteFiles dir key).get? (fileName key) = none :=
  Map.get?_erase_self _ _

/-- **A re-created Secret of another type takes the old type's file with it** (fix of S-C11-c): when the stored Secret is
materialised and an object of another type arrives under the same key — the type of a Secret is immutable, so it is a new object
whose deletion the store never saw — `<ns>-<name>` is removed and the path cleared; the new material is written by the next lookup. -/
theorem retype_removes (s : St) (key : String) (t : Typ) (ver : Nat) (valid : Bool) (e : Entry)
    (he : s.store.get? key = some e) (hp : e.hasPath = true) (ht : e.typ ≠ t) :
    (step s (.add key t ver valid)).1.dir.get? (fileName key) = none ∧
    (step s (.add key t ver valid)).1.store.get? key = some ⟨t, ver, valid, false⟩ := by
  simp [step, he, hp, ht, deleteFiles_self, Map.get?_set_self]

/-- **Invalidation removes the file** `<ns>-<name>` (all there is for the `SingleFile` types): an update that makes a materialised Secret
invalid deletes `<ns>-<name>` and clears the path, so a later reference reports the error. -/
theorem invalid_removes (s : St) (key : String) (t : Typ) (ver : Nat) (e : Entry)
    (he : s.store.get? key = some e) (hp : e.hasPath = true) :
    (step s (.add key t ver false)).1.dir.get? (fileName key) = none ∧
    (step s (.add key t ver false)).1.store.get? key = some ⟨t, ver, false, false⟩ := by
  by_cases ht : e.typ = t
  · simp [step, he, hp, ht, deleteFiles_self, Map.get?_set_self]
  · exact retype_removes s key t ver false e he hp ht

/-- **Deletion removes the file** `<ns>-<name>` and the store entry. -/
theorem delete_removes (s : St) (key : String) (e : Entry) (he : s.store.get? key = some e) (hp : e.hasPath = true) :
    (step s (.del key)).1.dir.get? (fileName key) = none ∧ (step s (.del key)).1.store.get? key = none := by
  simp only [step, he, hp, if_true]
  exact ⟨deleteFiles_self _ _, Map.get?_erase_self _ _⟩

/-- Deleting or invalidating a Secret never touches a file with another name. -/
theorem delete_exact (dir : Map File) (key f : String) (h : f ≠ fileName key) :
    (deleteFiles dir key).get? f = dir.get? f :=
  Map.get?_erase_ne _ _ _ h

/-- Secrets that have no file representation (OIDC, API key) never create one. -/
theorem no_file_types (dir : Map File) (key : String) (e : Entry) (h : e.typ = .oidc ∨ e.typ = .api) :
    (writeFiles dir key e) = (dir, false) := by
  unfold writeFiles; rcases h with h | h <;> simp [h]

/-- File modes: the private key material of a TLS Secret is owner-only. -/
theorem mode_restrictive (dir : Map File) (key : String) (e : Entry) (h : e.typ = .tls) :
    ((writeFiles dir key e).1.get? (fileName key)).map (·.mode) = some 600 := by
  unfold writeFiles; simp [h, Map.get?_set_self]

/-! ### negative results (recorded findings) -/

/-- **S-C11-a**: a CA Secret's files survive its deletion. -/
theorem ca_files_survive_delete :
    ∃ s : St, ∃ key, (∃ e, s.store.get? key = some e ∧ e.typ = .ca ∧ e.hasPath = true) ∧
      s.dir.get? (fileName key ++ "-ca.crt") ≠ none ∧
      (step s (.del key)).1.dir.get? (fileName key ++ "-ca.crt") ≠ none :=
  ⟨(step (step {} (.add "a/b" .ca 0 true)).1 (.get "a/b")).1, "a/b", by decide⟩

/-- **S-C11-b**: distinct Secrets share a derived file name. -/
theorem secret_files_collide :
    ∃ k k' : String, k ≠ k' ∧ fileName k = fileName k' := ⟨"a-b/c", "a/b-c", by decide, congrArg String.ofList (by decide)⟩

end Nic.Sec
