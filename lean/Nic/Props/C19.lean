/-
  C19 — App Protect arbitration: one signature set per tag, policy valid iff satisfiable; and (namespace
  `Nic.Dos`, at the end) the reference resolution of App Protect DoS protected resources.
-/
import Nic.Spec.AppProtect
import Nic.Model.Dos
import Nic.Lemmas.Map

namespace Nic.AP
open Nic.Arb (Map beats)

/-- The member selected as winner of a tag group is a member and beats every other member
(oldest, ties by UID): exactly one signature set per tag can be in force. -/
theorem winner_is_champion (g : List (String × SigEx)) (k : String) (h : winnerKey g = some k) :
    ∃ e, (k, e) ∈ g ∧ ∀ kv ∈ g, kv.1 = k ∨ beats e.sig.md kv.2.sig.md = true := by
  obtain ⟨⟨k, e⟩, hf, rfl⟩ := Option.map_eq_some_iff.mp h
  refine ⟨e, List.mem_of_find?_eq_some hf, fun kv hkv => ?_⟩
  simpa using List.all_eq_true.mp (List.find?_some hf :) kv hkv

theorem reconcile_get? (sigs : Map SigEx) (k : String) :
    (reconcile sigs).1.get? k = (sigs.get? k).map fun e =>
      if e.tag = "" || e.err = "validation" then e
      else if winnerKey (group sigs e.tag) = some k then { e with valid := true, err := "" }
      else if e.valid then { e with valid := false, err := "dup-tag" } else e := by
  -- `k` must be bound by the lemma for the entry function to be found by unification
  revert k
  refine Map.get?_map_entry sigs fun k e => ?_
  simp only [apply_ite (Prod.mk k)]

theorem verifyPolicies_get? (pols : Map PolEx) (sigs : Map SigEx) (k : String) :
    (verifyPolicies pols sigs).1.get? k = (pols.get? k).map fun p =>
      if !p.valid && p.err = "missing-sig" then
        if polSatisfied p.pol sigs then { p with valid := true, err := "" } else p
      else if p.valid then
        if !(polSatisfied p.pol sigs) then { p with valid := false, err := "missing-sig" } else p
      else p := by
  revert k
  refine Map.get?_map_entry pols fun k p => ?_
  simp only [apply_ite (Prod.mk k)]

/-- **After every reconciliation a tagged, schema-valid signature set is valid iff it is the winner
of its tag group** — the flag is recomputed from the current objects, whatever it was before. -/
theorem reconcile_flags (sigs : Map SigEx) (k : String) (e : SigEx) (he : sigs.get? k = some e)
    (ht : e.tag ≠ "") (hv : e.err ≠ "validation") :
    ∃ e', (reconcile sigs).1.get? k = some e' ∧ (e'.valid = true ↔ winnerKey (group sigs e.tag) = some k) := by
  rw [reconcile_get?, he, Option.map_some, if_neg (by simp [ht, hv])]
  refine ⟨_, rfl, ?_⟩
  split
  · exact ⟨fun _ => ‹_›, fun _ => rfl⟩
  · split
    · exact ⟨nofun, (absurd · ‹_›)⟩
    · exact ⟨(absurd · ‹_›), (absurd · ‹_›)⟩

/-- Untagged or schema-invalid signature sets are never touched by the tag arbitration. -/
theorem reconcile_untouched (sigs : Map SigEx) (k : String) (e : SigEx) (he : sigs.get? k = some e)
    (h : e.tag = "" ∨ e.err = "validation") : (reconcile sigs).1.get? k = some e := by
  rw [reconcile_get?, he, Option.map_some, if_pos (by simpa using h)]

/-- **After `verifyPolicies` a well-formed policy is usable iff all its requirements are satisfied
by signature sets in force** — usability is recomputed, not patched. -/
theorem verifyPolicies_flags (pols : Map PolEx) (sigs : Map SigEx) (k : String) (p : PolEx)
    (hp : pols.get? k = some p) (hw : p.valid = true ∨ p.err = "missing-sig") :
    ∃ p', (verifyPolicies pols sigs).1.get? k = some p' ∧ (p'.valid = true ↔ polSatisfied p.pol sigs = true) := by
  rw [verifyPolicies_get?, hp, Option.map_some]
  refine ⟨_, rfl, ?_⟩
  have he : p.valid = false → p.err = "missing-sig" := fun hv => hw.resolve_left (by simp [hv])
  cases hv : p.valid <;> cases polSatisfied p.pol sigs <;> simp [hv, he]

/-- **Every change of a policy's usability is reported**: the lists handed back by a signature
event are exactly the policies switched on and the policies switched off. -/
theorem flips_reported (pols : Map PolEx) (sigs : Map SigEx) (k : String) :
    (k ∈ (verifyPolicies pols sigs).2.1 ↔
      ∃ p, (k, p) ∈ pols ∧ p.valid = false ∧ p.err = "missing-sig" ∧ polSatisfied p.pol sigs = true) ∧
    (k ∈ (verifyPolicies pols sigs).2.2 ↔
      ∃ p, (k, p) ∈ pols ∧ p.valid = true ∧ polSatisfied p.pol sigs = false) := by
  unfold verifyPolicies
  simp only [Map.mem_keys_filter, Bool.and_eq_true, Bool.not_eq_true', decide_eq_true_eq, and_assoc, and_self]

/-! ### requirements -/

/-- `isReqSatisfiedByUserSig` is the tag match together with the specification's revision test. -/
theorem reqSatisfiedBy_eq (r : Req) (s : SigEx) :
    reqSatisfiedBy r s = (decide (s.tag ≠ "") && decide (s.tag = r.tag) && Spec.acceptable r s.sig) := by
  obtain ⟨t, mn, mx⟩ := r
  unfold reqSatisfiedBy Spec.acceptable
  rw [show (decide (s.tag = "") || decide (s.tag ≠ t)) = !(decide (s.tag ≠ "") && decide (s.tag = t)) by
    simp only [decide_not, Bool.not_and, Bool.not_not]]
  cases decide (s.tag ≠ "") && decide (s.tag = t)
  · rfl
  · cases s.sig.rev with
    | none => rfl
    | some rev =>
      cases mn <;> cases mx
      · rfl
      · rfl
      · exact (Bool.and_true _).symm
      · exact Bool.and_comm ..

/-- A requirement that only names a tag accepts the in-force signature set whatever its revision
(the defect S-C19-a was here). -/
theorem tag_only_requirement (t : String) (s : SigEx) :
    reqSatisfiedBy ⟨t, none, none⟩ s = (decide (s.tag ≠ "") && decide (s.tag = t)) := by
  rw [reqSatisfiedBy_eq, Spec.acceptable]
  cases s.sig.rev <;> exact Bool.and_true _

/-- Revision bounds are strict on both sides and each bound applies only if present. -/
theorem revision_bounds (t : String) (mn mx : Option Nat) (s : SigEx) (rev : Nat)
    (ht : s.tag = t) (hne : s.tag ≠ "") (hr : s.sig.rev = some rev) :
    reqSatisfiedBy ⟨t, mn, mx⟩ s =
      ((match mn with | some a => decide (a < rev) | none => true) &&
       (match mx with | some b => decide (rev < b) | none => true)) := by
  rw [reqSatisfiedBy_eq, Spec.acceptable, hr, decide_eq_true hne, decide_eq_true ht]
  rfl

end Nic.AP

namespace Nic.Dos
open Nic.Arb (Map)

theorem resolve_qualified {ref : String} (ns : String) (h : ref.contains '/' = true) :
    resolve ns ref = ref :=
  if_pos h

theorem isSome_unless {α} (c : Bool) (o : Option α) :
    (if (!c) = true then none else o).isSome = (c && o.isSome) := by
  cases c <;> rfl

/-- **A DosProtectedResource is usable exactly when it is stored and valid and the policy and log
configuration it names exist and are valid** — resolved in *its own* namespace. -/
theorem usable_iff (s : St) (pns ref : String) :
    (getValid s pns ref).isSome = true ↔
      ∃ p, s.prots.get? (resolve pns ref) = some p ∧ p.valid = true ∧
        refOk s.pols p.ns p.polRef = true ∧ refOk s.logs p.ns p.logRef = true := by
  unfold getValid
  cases s.prots.get? (resolve pns ref) with
  | none => simp
  | some p =>
    -- the guards of `getValid` are the conjuncts of `protReported`
    simp only [isSome_unless, Option.isSome_some, Bool.and_true, Bool.and_eq_true, Option.some.injEq,
      exists_eq_left']

/-- The referrer's namespace only selects the protected resource; it plays no role in resolving
the resource's own references. -/
theorem references_in_own_namespace (s : St) (n1 n2 ref : String) (h : ref.contains '/' = true) :
    getValid s n1 ref = getValid s n2 ref := by
  unfold getValid; rw [resolve_qualified n1 h, resolve_qualified n2 h]

/-- Every re-evaluation reports the protected resource with its current verdict. -/
theorem reeval_reports (s : St) (ps : List Prot) (p : Prot) (h : p ∈ ps) :
    ((if protReported s p then "U" else "D") ++ "prot:" ++ p.ns ++ "/" ++ p.name) ∈ (reeval s ps).1 :=
  List.mem_map.mpr ⟨p, h, rfl⟩

end Nic.Dos
