/-
  C08 — fail closed: an unusable policy or certificate never yields unprotected service.
-/
import Nic.Model.Policies

namespace Nic.Policies

/-- A reference is unusable in a context: its policy is absent from the table, or reports an error when it is reached. -/
def Unusable (ctx : Ctx) (tls : Bool) (table : String → Option Pol) (r : String) : Prop :=
  table r = none ∨ ∃ p, table r = some p ∧ ∀ configured, isError ctx tls configured p = true

/-- No kind that allows only one policy per context occurs twice among the references. -/
def NoRepeatedSingle (table : String → Option Pol) (refs : List String) : Prop :=
  (refs.filterMap fun r => (table r).bind fun p => if p.kind.single then some p.kind else none).Nodup

private theorem not_ignored_of_fresh {ctx : Ctx} {tls : Bool} {configured : List Kind} {p : Pol}
    (h : p.kind.single = true → p.kind ∉ configured) : ignored ctx tls configured p = false := by
  unfold ignored
  cases hs : p.kind.single
  · rfl
  · simp [h hs]

private theorem NoRepeatedSingle.tail {table : String → Option Pol} {r : String} {rs : List String} {p : Pol}
    (ht : table r = some p) (h : NoRepeatedSingle table (r :: rs)) :
    NoRepeatedSingle table rs ∧ ∀ r2 ∈ rs, ∀ p2, table r2 = some p2 → p2.kind.single = true → p2.kind ≠ p.kind := by
  unfold NoRepeatedSingle at h ⊢
  simp only [List.filterMap_cons, ht, Option.bind_some] at h
  by_cases hs : p.kind.single = true
  · rw [if_pos hs] at h
    obtain ⟨hnot, hnd⟩ := List.nodup_cons.mp h
    exact ⟨hnd, fun r2 hr2 p2 hp2 hs2 heq => hnot (List.mem_filterMap.mpr ⟨r2, hr2, by rw [hp2, Option.bind_some, if_pos hs2, heq]⟩)⟩
  · rw [if_neg hs] at h
    exact ⟨h, fun r2 hr2 p2 hp2 hs2 heq => hs (heq ▸ hs2)⟩

/-- If any reference of a scope is unusable — whatever its position, whatever valid policies stand
before or after it — the scope gets `ErrorReturn 500`. (For every policy table and context, and every list of references in which no single-instance kind occurs twice
or is configured already: `hnr`, `hfresh`; otherwise the later policy of the kind is ignored.) -/
theorem unusable_policy_500 (ctx : Ctx) (tls : Bool) (table : String → Option Pol) (refs : List String)
    (configured : List Kind)
    (hfresh : ∀ k ∈ configured, ∀ r ∈ refs, ∀ p, table r = some p → p.kind.single = true → p.kind ≠ k)
    (hnr : NoRepeatedSingle table refs)
    (h : ∃ r ∈ refs, Unusable ctx tls table r) : errorReturn ctx tls table refs configured = true := by
  induction refs generalizing configured with
  | nil => obtain ⟨r, hr, _⟩ := h; cases hr
  | cons r rs ih =>
    obtain ⟨r', hr', hu⟩ := h
    unfold errorReturn
    cases ht : table r with
    | none => rfl
    | some p =>
      -- the two hypotheses say that no reference is ever skipped as a second policy of its kind
      have hni : ignored ctx tls configured p = false :=
        not_ignored_of_fresh fun hs hmem => hfresh _ hmem r List.mem_cons_self p ht hs rfl
      simp only [hni, Bool.false_eq_true, if_false]
      split
      · rfl
      · next he =>
        rcases List.mem_cons.mp hr' with rfl | hr'
        · rcases hu with hnone | ⟨p', hp', hall⟩
          · cases ht.symm.trans hnone
          · cases ht.symm.trans hp'
            exact absurd (hall configured) he
        · obtain ⟨hnr', hne⟩ := hnr.tail ht
          refine ih _ (fun k hk r2 hr2 p2 hp2 hs2 => ?_) hnr' ⟨r', hr', hu⟩
          rcases List.mem_cons.mp hk with rfl | hk
          · exact hne r2 hr2 p2 hp2 hs2
          · exact hfresh k hk r2 (List.mem_cons_of_mem _ hr2) p2 hp2 hs2

/-- **scope_covers_spec / _location / _inherited**: with an unusable reference in the spec every location of the server answers with an error; with one
among a route's / subroute's references that location does; a subroute without policies of its own is covered by the
policies of the route that delegates to it. -/
theorem scope_covers_spec (tls : Bool) (table : String → Option Pol) (specRefs locRefs : List String) (c : Ctx)
    (hnr : NoRepeatedSingle table specRefs) (h : ∃ r ∈ specRefs, Unusable .spec tls table r) :
    answeredWithError tls table specRefs locRefs c = true := by
  rw [answeredWithError, unusable_policy_500 _ _ _ _ [] (fun _ hk => nomatch hk) hnr h, Bool.true_or]

theorem scope_covers_location (tls : Bool) (table : String → Option Pol) (specRefs locRefs : List String) (c : Ctx)
    (hnr : NoRepeatedSingle table locRefs) (h : ∃ r ∈ locRefs, Unusable c tls table r) :
    answeredWithError tls table specRefs locRefs c = true := by
  rw [answeredWithError, unusable_policy_500 _ _ _ _ [] (fun _ hk => nomatch hk) hnr h, Bool.or_true]

theorem scope_covers_inherited (tls : Bool) (table : String → Option Pol) (specRefs inherited : List String)
    (hnr : NoRepeatedSingle table inherited) (h : ∃ r ∈ inherited, Unusable .subroute tls table r) :
    answeredWithError tls table specRefs (subrouteRefs [] inherited) .subroute = true :=
  scope_covers_location tls table specRefs inherited .subroute hnr h

/-- Which policies are unusable, kind by kind (the hypotheses of the theorems above are met by exactly these). -/
theorem unusable_iff_bad_dependency (ctx : Ctx) (tls : Bool) (p : Pol) :
    (∀ configured, isError ctx tls configured p = true) ↔
      (match p.kind with
       | .acl | .rl => False
       | .jwt | .basic | .oidc | .apikey => p.dep1.bad = true
       | .imtls => tls = false ∨ ctx ≠ .spec ∨ p.dep1.bad = true
       | .emtls => p.dep1.bad = true ∨ p.dep2.bad = true
       | .waf => p.dep1.bad = true ∨ p.dep2.bad = true ∨ ∃ d ∈ p.extra, d.bad = true) := by
  cases hk : p.kind <;> simp [isError, hk, or_assoc]
  -- apikey, the one kind whose verdict looks at what is configured already: nothing is, at worst
  exact ⟨fun h => by simpa using h [], fun h _ => .inr h⟩

/-- An unusable TLS Secret makes the host reject handshakes and never names another certificate. -/
theorem tls_fail_rejects (secret : Dep) (path : String) (h : secret ≠ .ok) :
    (sslConfig secret path).reject = true ∧ (sslConfig secret path).certificate = none := by
  cases secret <;> simp_all [sslConfig]

theorem tls_ok_serves (path : String) : sslConfig .ok path = ⟨false, some path⟩ := rfl

/-- Authentication configured on an Ingress stays enforced whatever the state of its Secret. -/
theorem ingress_auth_always_on (secret : Dep) : ingressAuthConfigured true secret = true := rfl

/-! ### non-vacuity and the documented exception -/

def tbl : String → Option Pol
  | "rl" => some { kind := .rl, dep1 := .ok, dep2 := .ok }
  | "jwt-bad" => some { kind := .jwt, dep1 := .missing, dep2 := .ok }
  | "jwt-ok" => some { kind := .jwt, dep1 := .ok, dep2 := .ok }
  | "acl" => some { kind := .acl, dep1 := .ok, dep2 := .ok }
  | _ => none

example : errorReturn .route true tbl ["rl", "jwt-bad", "acl"] [] = true := by decide
example : errorReturn .route true tbl ["rl", "jwt-ok", "acl"] [] = false := by decide
example : errorReturn .route true tbl ["rl", "gone", "acl"] [] = true := by decide

/-- A second policy of a single-instance kind is ignored (the first one stays enforced), even when it is unusable:
this is why the theorem asks for `NoRepeatedSingle`. -/
example : errorReturn .route true tbl ["jwt-ok", "jwt-bad"] [] = false := by decide

end Nic.Policies
