/-
  C01 — one owner per host, chosen identically on every replica and in every
  event order.  Model: Nic/Model/Arb.lean; spec: Nic/Spec/Arb.lean.
-/
import Nic.Lemmas.Owner
import Nic.Lemmas.StepFacts

namespace Nic.Arb
open Spec

/-- Kubernetes' guarantee as it is needed here: the claimants of one host carry
pairwise distinct UIDs (distinct live objects have distinct UIDs, and
`validateIngressSpec` rejects an Ingress that lists a host twice). -/
def DistinctClaims (o : Objs) : Prop :=
  ∀ h, ((Spec.claims o).filter (fun c => c.host = h)).Pairwise (fun a b => a.md.uid ≠ b.md.uid)

/-- The winner relation is a strict total order on resources with distinct UIDs:
earliest creation time wins, ties broken by a fixed order on UIDs. -/
theorem beats_strict_total (a b c : Meta) :
    beats a a = false ∧ (beats a b = true → beats b a = false) ∧
    (beats a b = true → beats b c = true → beats a c = true) ∧
    (a.uid ≠ b.uid → beats a b = true ∨ beats b a = true) ∧
    (a.ts < b.ts → beats a b = true) :=
  ⟨beats_irrefl a, beats_asymm, beats_trans, beats_total, fun h => by rw [beats_iff]; omega⟩

/-- **Ownership.** For every object set whose claimants are distinguishable, the host map
built by `buildHostsAndResources` assigns each host to exactly `Spec.owner`: the
claimant (Ingress rule host, VirtualServer host, passthrough TransportServer host)
that beats every other claimant of that host.  In particular every host has at
most one owner and that owner is the oldest claimant, ties broken by UID. -/
theorem buildHosts_eq_spec (o : Objs) (hd : DistinctClaims o) (h : String) :
    (buildHosts o).holderKey h = Spec.owner o h := by
  unfold Build.holderKey Spec.owner
  rw [buildHosts_hosts]
  exact foldl_ostep_owner _ h (hd h)

/-- The owner is a claimant of the host and beats every other claimant of it. -/
theorem owner_is_champion (o : Objs) (h k : String) (hk : Spec.owner o h = some k) :
    ∃ c ∈ Spec.claims o, c.host = h ∧ c.key = k ∧
      ∀ c' ∈ Spec.claims o, c'.host = h → c'.md.uid ≠ c.md.uid → beats c.md c'.md = true := by
  obtain ⟨c, hc, rfl⟩ := Option.map_eq_some_iff.mp hk
  obtain ⟨hm, hb⟩ := champion_spec hc
  obtain ⟨hm, hh⟩ := List.mem_filter.mp hm
  exact ⟨c, hm, of_decide_eq_true hh, rfl, fun c' hc' hh' =>
    hb c' (List.mem_filter.mpr ⟨hc', decide_eq_true hh'⟩)⟩

/-- The owner depends only on *which* claims exist, not on the order they are
enumerated in (key order of the stores, kinds, …): any rearrangement of the
claim list with the same members has the same champion (up to UID). -/
theorem owner_order_free (l l' : List Claim) (hp : ∀ x, x ∈ l ↔ x ∈ l') (c c' : Claim)
    (h : Spec.champion l = some c) (h' : Spec.champion l' = some c') : c.md.uid = c'.md.uid :=
  champion_unique Claim.md ((isChampion_congr Claim.md hp c).mp (champion_spec h)) (champion_spec h')

/-! ### every operation recomputes ownership from the object set -/

/-- **History independence.** Two arbitrary finite histories (any mix of add / update /
invalidate / class-change / delete events over all kinds and the GlobalConfiguration,
any Go map iteration orders) that end in the same object set end with the same host
table — hence the same owner for every host and the same per-host validity marks. -/
theorem history_independent (p₁ p₂) (cfg : Cfg) (h₁ h₂ : List Op)
    (he : (run p₁ { toObjs := { cfg := cfg } } h₁).toObjs = (run p₂ { toObjs := { cfg := cfg } } h₂).toObjs) :
    (run p₁ { toObjs := { cfg := cfg } } h₁).hosts = (run p₂ { toObjs := { cfg := cfg } } h₂).hosts := by
  rw [(run_settles p₁ _ h₁ (settled_init cfg)).1, (run_settles p₂ _ h₂ (settled_init cfg)).1, he]

/-- After any history the host table is `hostsOf` of the final object set, and the holder that `buildHosts`
computes for that object set is the Spec's owner. -/
theorem owner_after_history (p) (cfg : Cfg) (ops : List Op) (h : String)
    (hd : DistinctClaims (run p { toObjs := { cfg := cfg } } ops).toObjs) :
    (run p { toObjs := { cfg := cfg } } ops).hosts = hostsOf (run p { toObjs := { cfg := cfg } } ops).toObjs ∧
    (buildHosts (run p { toObjs := { cfg := cfg } } ops).toObjs).holderKey h =
      Spec.owner (run p { toObjs := { cfg := cfg } } ops).toObjs h :=
  ⟨(run_settles p _ ops (settled_init cfg)).1, buildHosts_eq_spec _ hd h⟩

/-! ### non-vacuity -/

private def mA : Meta := { ns := "d", name := "a", uid := 1, ts := 5, gen := 1 }
private def mB : Meta := { ns := "d", name := "b", uid := 2, ts := 5, gen := 1 }   -- same time, greater UID: wins the tie
private def mC : Meta := { ns := "d", name := "c", uid := 3, ts := 9, gen := 1 }
private def o3 : Objs :=
  { ings := [("d/a", { md := mA, kind := .regular, chal := false, rules := [("x.ex", []), ("y.ex", [])] })],
    vss := [("d/b", { md := mB, host := "x.ex", routes := [], listener := none })],
    tss := [("d/c", { md := mC, lname := "tls-passthrough", proto := "TLS_PASSTHROUGH", host := "y.ex" })] }

example : (buildHosts o3).holderKey "x.ex" = some "VirtualServer/d/b" := by decide
example : (buildHosts o3).holderKey "y.ex" = some "Ingress/d/a" := by decide      -- wins one host, loses the other
example : Spec.owner o3 "x.ex" = some "VirtualServer/d/b" ∧ Spec.owner o3 "y.ex" = some "Ingress/d/a" := by decide
example : beats mB mA = true ∧ beats mA mC = true := by decide

end Nic.Arb
