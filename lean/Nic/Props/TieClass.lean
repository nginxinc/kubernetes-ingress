/-
  Tie (translated source ↔ model) for C16: `LoadBalancerController.HasCorrectIngressClass` as it is in /repo now (Nic.Gen.Fns,
  regenerated on every run) is the class predicate of the model (Nic/Model/Class.lean), kind by kind.
-/
import Nic.Gen.Fns
import Nic.Model.Class

namespace Nic.TieClass
open Nic.Go Nic.Gen.Fns Nic.Class

theorem idpure {α} (x : α) : (pure x : Id α) = x := rfl

abbrev has := K8sController.LoadBalancerController_HasCorrectIngressClass

/-- the deprecated annotation as the model sees it (an absent key and an empty value are the same to the code) -/
def annOf (ing : Ingress) : Option String := some (Go.idx ing.ObjectMeta.Annotations "kubernetes.io/ingress.class")

theorem ingress_tie (lbc : LoadBalancerController) (ing : Ingress) :
    has lbc (.Ingress ing) = hasCorrectClass lbc.ingressClass .ingress (annOf ing) ing.Spec.IngressClassName := by
  simp only [has, K8sController.LoadBalancerController_HasCorrectIngressClass, hasCorrectClass, annOf, Option.getD_some]
  by_cases ha : Go.idx ing.ObjectMeta.Annotations "kubernetes.io/ingress.class" = ""
  · -- no annotation: the class is the field's, or none
    simp only [ha]
    cases ing.Spec.IngressClassName <;> rfl
  · -- the annotation decides
    simp only [beq_false_of_ne ha, bne_iff_ne.mpr ha, Bool.false_and, ha]
    rfl

theorem vs_tie (lbc : LoadBalancerController) (o : VirtualServer) :
    has lbc (.VirtualServer o) = hasCorrectClass lbc.ingressClass .vs none (some o.Spec.IngressClass) := rfl

theorem vsr_tie (lbc : LoadBalancerController) (o : VirtualServerRoute) :
    has lbc (.VirtualServerRoute o) = hasCorrectClass lbc.ingressClass .vsr none (some o.Spec.IngressClass) := rfl

theorem ts_tie (lbc : LoadBalancerController) (o : TransportServer) :
    has lbc (.TransportServer o) = hasCorrectClass lbc.ingressClass .ts none (some o.Spec.IngressClass) := rfl

theorem policy_tie (lbc : LoadBalancerController) (o : Policy) :
    has lbc (.Policy o) = hasCorrectClass lbc.ingressClass .policy none (some o.Spec.IngressClass) := rfl

theorem other_tie (lbc : LoadBalancerController) : has lbc .other = hasCorrectClass lbc.ingressClass .other none none := rfl

/-- The property's wording, about the source's own predicate: an Ingress that names no class at all is never ours; a custom
resource naming another class never is (`foreign_class_not_ours`); a non-empty annotation decides alone
(`annotation_beats_field`). -/
theorem ingress_without_class_not_ours (lbc : LoadBalancerController) (ing : Ingress) (hne : lbc.ingressClass ≠ "")
    (ha : Go.idx ing.ObjectMeta.Annotations "kubernetes.io/ingress.class" = "") (hf : ing.Spec.IngressClassName = none) :
    has lbc (.Ingress ing) = false := by
  rw [ingress_tie]; simp [hasCorrectClass, annOf, ha, hf, hne]

theorem foreign_class_not_ours (lbc : LoadBalancerController) (o : VirtualServer) (h1 : o.Spec.IngressClass ≠ lbc.ingressClass)
    (h2 : o.Spec.IngressClass ≠ "") : has lbc (.VirtualServer o) = false := by
  rw [vs_tie]; simp [hasCorrectClass, h1, h2]

theorem annotation_beats_field (lbc : LoadBalancerController) (ing : Ingress)
    (ha : Go.idx ing.ObjectMeta.Annotations "kubernetes.io/ingress.class" ≠ "") :
    has lbc (.Ingress ing) = (Go.idx ing.ObjectMeta.Annotations "kubernetes.io/ingress.class" == lbc.ingressClass) := by
  rw [ingress_tie]; simp [hasCorrectClass, annOf, ha]; rfl

example : has { ingressClass := "nginx" } (.Ingress { Spec := { IngressClassName := some "nginx" } }) = true := by decide
example : has { ingressClass := "nginx" } (.Ingress { ObjectMeta := { Annotations := [("kubernetes.io/ingress.class", "other")] }, Spec := { IngressClassName := some "nginx" } }) = false := by decide
example : has { ingressClass := "nginx" } (.Policy {}) = true := by decide

end Nic.TieClass
