/-
  C02 — one TransportServer per (listener, host); active only on a valid
  matching listener; listener admission.
-/
import Nic.Lemmas.Listener
import Nic.Lemmas.Admission

namespace Nic.Arb
open Spec

/-! ### (listener, host) ownership -/

/-- Kubernetes' guarantee: the TransportServers claiming one (listener, host) pair have distinct UIDs. -/
def DistinctLClaims (o : Objs) : Prop :=
  ∀ lk, ((Spec.lclaims o).filter (fun c => c.host = lk)).Pairwise (fun a b => a.md.uid ≠ b.md.uid)

/-- **One TransportServer per (listener, host), independent of map iteration order.**
`buildListenerHostsAndTSConfigurations` ranges over the Go map `transportServers` in an
unspecified order; for *every* order `ord` (any permutation of the stored
TransportServers) the holder of each pair is `Spec.lowner`: the oldest claimant
(ties broken by UID) among the TransportServers whose listener name *and* protocol
match a listener of the GlobalConfiguration. -/
theorem listenerOwner_eq_spec (o : Objs) (ord : List (String × TS)) (hperm : ord.Perm o.tss)
    (hd : DistinctLClaims o) (lk : String) :
    (buildListenerHosts o ord).holderKey lk = Spec.lowner o lk := by
  have hp : ((Spec.lclaimsOf o.gc ord).filter (fun c => c.host = lk)).Perm ((Spec.lclaims o).filter (fun c => c.host = lk)) :=
    (hperm.filterMap _).filter _
  have hd' := (hp.pairwise_iff (fun h => Ne.symm h)).mpr (hd lk)
  unfold LBuild.holderKey Spec.lowner
  rw [buildListenerHosts_lhosts, foldl_ostep_owner _ lk hd', champion_congr (fun _ => hp.mem_iff) hd' (hd lk)]

/-- Hence two iteration orders always agree on every owner. -/
theorem listenerHosts_perm_invariant (o : Objs) (ord₁ ord₂ : List (String × TS))
    (h₁ : ord₁.Perm o.tss) (h₂ : ord₂.Perm o.tss) (hd : DistinctLClaims o) (lk : String) :
    (buildListenerHosts o ord₁).holderKey lk = (buildListenerHosts o ord₂).holderKey lk := by
  rw [listenerOwner_eq_spec o ord₁ h₁ hd, listenerOwner_eq_spec o ord₂ h₂ hd]

/-- **Active only on a matching listener.** A (listener, host) pair has an owner only if that
owner is a stored TransportServer and the GlobalConfiguration defines a listener with exactly
its name and protocol; the pair is that listener's name with the TransportServer's host. -/
theorem active_needs_listener (o : Objs) (lk k : String) (h : Spec.lowner o lk = some k) :
    ∃ kv ∈ o.tss, ∃ l, listenerFor o.gc kv.2 = some l ∧ tsKey kv.2 = k ∧ lk = lkey l.name kv.2.host ∧
      kv.2.lname = l.name ∧ kv.2.proto = l.proto ∧ (∃ ls, o.gc = some ls ∧ l ∈ ls) := by
  obtain ⟨c, hc, rfl⟩ := Option.map_eq_some_iff.mp h
  obtain ⟨hm, hh⟩ := List.mem_filter.mp (champion_spec hc).1
  obtain ⟨kv, hkv, l, hl, rfl⟩ := mem_lclaimsOf hm
  exact ⟨kv, hkv, l, hl, rfl, (of_decide_eq_true hh).symm, listenerFor_some hl⟩

/-- **Bound to exactly that listener.** Every TransportServerConfiguration produced by the build
(in any iteration order) carries the port and addresses of the listener with its name and
protocol — and zero values if there is none. -/
theorem binding_exact (o : Objs) (ord : List (String × TS)) (k : String) (c : TSCfg)
    (h : (buildListenerHosts o ord).cfgs.get? k = some c) : Bound o.gc c :=
  buildListenerHosts_allBound o ord k c h

/-! ### listener admission -/

/-- Every admitted listener is valid on its own: legal name that is not the built-in
`tls-passthrough`, **not a reserved port**, port in range, known protocol, valid IPs. -/
theorem admission_each_valid (forb ok4 ok6) (ls : List Listener) :
    ∀ l ∈ (admitAll forb ok4 ok6 ls).out, selfOk forb ok4 ok6 l = true ∧ l.port ∉ forb := by
  rw [admission_eq_spec]
  intro l hl
  have h := (admitSpec_admissible forb ok4 ok6 ls).1 l hl
  refine ⟨h, fun hm => ?_⟩
  unfold selfOk at h
  simp only [Bool.and_eq_true, Bool.not_eq_true'] at h
  exact Bool.false_ne_true (h.1.1.1.1.2.symm.trans (List.contains_iff_mem.mpr hm))

/-- **No two admitted listeners share a name or reuse an ip:port for conflicting protocols**
({HTTP, TCP} mutually, UDP with UDP; IPv4 and IPv6 separately, defaults 0.0.0.0 and ::). -/
theorem admission_no_conflict (forb ok4 ok6) (ls : List Listener) :
    ((admitAll forb ok4 ok6 ls).out).Pairwise (fun a b => a.name ≠ b.name ∧ clash a b = false) := by
  rw [admission_eq_spec]
  exact (admitSpec_admissible forb ok4 ok6 ls).2

/-- Admitted listeners are a subsequence of the input: nothing is invented or reordered. -/
theorem admission_sublist (forb ok4 ok6) (ls : List Listener) :
    ((admitAll forb ok4 ok6 ls).out).Sublist ls := by
  rw [admission_eq_spec]
  exact admitSpec_sublist forb ok4 ok6 ls

/-- **An invalid entry never disables a valid one.** Whether an entry is admitted depends only on
itself and on the entries *admitted* before it: it is kept iff it is valid on its own, no admitted
earlier entry has its name, and it clashes with no admitted earlier entry. Entries that were
dropped (for any reason) leave no trace. -/
theorem admission_greedy (forb ok4 ok6) (pre : List Listener) (l : Listener) :
    (admitAll forb ok4 ok6 (pre ++ [l])).out =
      if selfOk forb ok4 ok6 l &&
          ((admitAll forb ok4 ok6 pre).out).all (fun a => a.name ≠ l.name && !(clash a l))
      then (admitAll forb ok4 ok6 pre).out ++ [l] else (admitAll forb ok4 ok6 pre).out := by
  rw [admission_eq_spec, admission_eq_spec, admitSpec_eq, admitSpec_eq, List.foldl_append]
  rfl

/-! ### non-vacuity -/

private def la : Listener := ⟨"a", 5000, "HTTP", false, "", ""⟩
private def lb1 : Listener := ⟨"b", 5000, "TCP", false, "", ""⟩     -- clashes with `a` on 0.0.0.0:5000
private def lb2 : Listener := ⟨"b", 5001, "TCP", false, "", ""⟩     -- same name as the dropped entry: must be kept
private def lu : Listener := ⟨"u", 5000, "UDP", false, "", ""⟩      -- UDP may share the port

example : ((admitAll [80, 443] (fun _ => true) (fun _ => true) [la, lb1, lb2, lu]).out).map (·.name) = ["a", "b", "u"] := by decide
example : ((admitAll [80, 443] (fun _ => true) (fun _ => true) [⟨"r", 443, "TCP", false, "", ""⟩, lb2]).out).map (·.name) = ["b"] := by decide

private def tA : TS := { md := { ns := "d", name := "a", uid := 1, ts := 7, gen := 1 }, lname := "b", proto := "TCP", host := "" }
private def tB : TS := { md := { ns := "d", name := "b", uid := 2, ts := 3, gen := 1 }, lname := "b", proto := "TCP", host := "" }
private def oL : Objs := { tss := [("d/a", tA), ("d/b", tB)], gc := some [lb2] }
example : (buildListenerHosts oL oL.tss).holderKey "b|" = some "TransportServer/d/b" ∧
          (buildListenerHosts oL oL.tss.reverse).holderKey "b|" = some "TransportServer/d/b" := by decide

end Nic.Arb
