/-
  C03 — emitted change batches keep "applied" equal to the arbitrated state.
  Property theorems: batch ordering for every public operation, and
  quiescence (rebuilding an unchanged object set emits nothing).  The
  applied = active statement over whole histories is decided on the real code
  by the shadow-apply oracle (props/C03.py); DESIGN.md section 4, C03, says
  what is and is not carried by a theorem here.
-/
import Nic.Lemmas.Quiescent
import Nic.Lemmas.StepFacts

namespace Nic.Arb

/-- A batch in which every removal is ordered before every addition or update. -/
def DeletesFirst (cs : List Change) : Prop :=
  ∃ ds us, cs = ds ++ us ∧ (∀ c ∈ ds, c.op = .delete) ∧ (∀ c ∈ us, c.op = .update)

/-- The re-ordering applied to a batch collected from two rebuilds returns deletes first. -/
theorem deletesFirst_deletes_first (cs : List Change) : DeletesFirst (deletesFirst cs) :=
  ⟨_, _, rfl, fun c hc => by simpa using (List.mem_filter.mp hc).2,
    fun c hc => by simpa using (List.mem_filter.mp hc).2⟩

/-- `squashResourceChanges` returns deletes first: its last step is `deletesFirst`. -/
theorem squash_deletes_first (cs : List Change) : DeletesFirst (squash cs) :=
  deletesFirst_deletes_first _

private theorem attachGo_ops (kk : String) (cs : List Change) :
    (attachError.go kk cs).map (·.op) = cs.map (·.op) := by
  induction cs with
  | nil => rfl
  | cons c r ih => unfold attachError.go; split <;> simp [ih]

/-- Whether a batch is deletes-first is a matter of its sequence of operations alone. -/
private theorem deletesFirst_of_ops {cs cs' : List Change} (ho : cs'.map (·.op) = cs.map (·.op))
    (h : DeletesFirst cs) : DeletesFirst cs' := by
  obtain ⟨ds, us, rfl, hd, hu⟩ := h
  rw [List.map_append] at ho
  obtain ⟨ds', us', rfl, h1, h2⟩ := List.map_eq_append_iff.mp ho
  have key : ∀ {l l' : List Change} {o : OpKind}, l'.map (·.op) = l.map (·.op) → (∀ c ∈ l, c.op = o) →
      ∀ c ∈ l', c.op = o := by
    intro l l' o e hl
    rw [← List.forall_mem_map (P := (· = o))] at hl ⊢
    rwa [e]
  exact ⟨ds', us', rfl, key h1 hd, key h2 hu⟩

private theorem map_keeps (cs : List Change) (f : Change → Change) (hf : ∀ c, (f c).op = c.op)
    (h : DeletesFirst cs) : DeletesFirst (cs.map f) :=
  deletesFirst_of_ops (by rw [List.map_map]; exact List.map_congr_left fun c _ => hf c) h

private theorem attachError_keeps (kk : String) (cs : List Change) (ps : List Problem)
    (h : DeletesFirst cs) : DeletesFirst (attachError kk cs ps).1 := by
  unfold attachError
  split
  · exact deletesFirst_of_ops (attachGo_ops kk cs) h
  · exact h

theorem rebuildHosts_deletes_first (s : State) : DeletesFirst (rebuildHosts s).2.1 := by
  unfold rebuildHosts
  simp only
  exact map_keeps _ _ (fun c => by split <;> rfl) (squash_deletes_first _)

theorem rebuildListenerHosts_deletes_first (s : State) (ord) : DeletesFirst (rebuildListenerHosts s ord).2.1 := by
  unfold rebuildListenerHosts
  simp only
  exact squash_deletes_first _

theorem gcBoth_deletes_first (s : State) (ord) : DeletesFirst (gcBoth s ord).2.1 := by
  rw [gcBoth_changes]; exact deletesFirst_deletes_first _

theorem tsBoth_deletes_first (s : State) (ord) : DeletesFirst (tsBoth s ord).2.1 := by
  rw [tsBoth_eq]; split
  · exact gcBoth_deletes_first s ord
  · exact rebuildListenerHosts_deletes_first s ord

/-- **Within one batch every removal is ordered before every addition or update** — for every
public operation of the arbitration component, in every state, including the operations that
combine a listener rebuild with a host rebuild. -/
theorem batch_deletes_first (perm) (s : State) (op : Op) : DeletesFirst (step perm s op).2.1 :=
  step_cases perm s op (P := fun r => DeletesFirst r.2.1) ⟨[], [], rfl, by simp, by simp⟩
    (fun _ _ _ => rebuildHosts_deletes_first _) (fun _ => tsBoth_deletes_first _ _) (fun _ => gcBoth_deletes_first _ _)
    (fun _ _ h => attachError_keeps _ _ _ h) (fun _ _ h => h)

/-! ### quiescence -/

/-- **Rebuilding an unchanged object set is silent**: a second rebuild directly after a first one
emits no change and no problem and leaves the state as it is. (Every event re-processes the whole
object set, so this is what keeps unrelated resources from being re-applied or re-reported.) -/
theorem rebuild_quiescent (s : State) :
    rebuildHosts (rebuildHosts s).1 = ((rebuildHosts s).1, [], []) :=
  rebuildHosts_settled _ (rebuildHosts_settles s)

end Nic.Arb
