/-
  C12 — no change left unapplied; no reload while reloads are held back.
-/
import Nic.Model.Reload

namespace Nic.Reload

/-- Where a given element of `a ++ b` sits: in `a` or in `b`. -/
private theorem append_eq_append_cons {α : Type} {a b pre post : List α} {e : α} (h : a ++ b = pre ++ e :: post) :
    (∃ m, a = pre ++ e :: m ∧ post = m ++ b) ∨ (∃ m, pre = a ++ m ∧ b = m ++ e :: post) := by
  rcases List.append_eq_append_iff.mp h with ⟨m, rfl, hb⟩ | ⟨m, rfl, hm⟩
  · exact Or.inr ⟨m, rfl, hb⟩
  · cases m with
    | nil => exact Or.inr ⟨[], by simp, hm.symm⟩
    | cons x m =>
      obtain ⟨rfl, rfl⟩ := List.cons.inj hm
      exact Or.inl ⟨m, rfl, rfl⟩

private theorem append_eq_append_cons_left {α : Type} {a b pre post : List α} {e : α} (h : a ++ b = pre ++ e :: post)
    (hb : e ∉ b) : ∃ m, a = pre ++ e :: m ∧ post = m ++ b :=
  (append_eq_append_cons h).resolve_right fun ⟨m, _, hm⟩ => hb (hm ▸ List.mem_append_right m List.mem_cons_self)

/-! ### trace predicates -/

theorem quiet_nil : Quiet [] := List.forall_mem_nil _

theorem quiet_append {a b : List Ev} : Quiet (a ++ b) ↔ Quiet a ∧ Quiet b := List.forall_mem_append

theorem quiet_ret (ok : Bool) : Quiet [Ev.ret ok] := List.forall_mem_singleton.2 ⟨nofun, nofun⟩

theorem mem_writes {rs : List Res} {i0 : Nat} {e : Ev} (h : e ∈ writes rs i0) : ∃ i, ∃ r ∈ rs, e = Ev.write i r.changed := by
  induction rs generalizing i0 with
  | nil => cases h
  | cons r rs ih =>
    rcases List.mem_cons.mp h with rfl | h
    · exact ⟨_, r, List.mem_cons_self, rfl⟩
    · obtain ⟨i, r', hr, he⟩ := ih h
      exact ⟨i, r', List.mem_cons_of_mem _ hr, he⟩

theorem quiet_writes (rs : List Res) (i : Nat) : Quiet (writes rs i) := by
  intro e h
  obtain ⟨_, _, _, rfl⟩ := mem_writes h
  exact ⟨nofun, nofun⟩

theorem AppliedByReload.orPushed {tr : List Ev} (h : AppliedByReload tr) (rs : List Res) : AppliedOrPushed rs tr :=
  fun pre post i _ ht _ => Or.inl (h pre post i ht)

theorem appliedOrPushed_of_unchanged {tr : List Ev} (rs : List Res) (h : ∀ i, Ev.write i true ∉ tr) : AppliedOrPushed rs tr :=
  fun pre _ i _ ht _ => absurd (ht ▸ List.mem_append_right pre List.mem_cons_self) (h i)

theorem applied_of_reload (ws : List Ev) (ok : Bool) : AppliedByReload (ws ++ [Ev.reload true, Ev.ret ok]) := by
  intro pre post i h
  obtain ⟨m, _, rfl⟩ := append_eq_append_cons_left h (by simp)
  simp

/-! ### Part 1: Configurator operations -/

theorem doReload_gate (f : Faults) (cs : CS) : (doReload f cs).cs.enabled = cs.enabled := by
  unfold doReload; split <;> rfl

theorem doReload_evs (f : Faults) (cs : CS) :
    (doReload f cs).evs = if cs.enabled then [Ev.reload (doReload f cs).ok] else [] := by
  unfold doReload; split <;> rfl

theorem push_gate (f : Faults) (i n : Nat) (cs : CS) : (push f i n cs).cs.enabled = cs.enabled := by
  fun_induction push f i n cs with
  | case3 n cs he hf r ih => exact ih
  | _ => rfl

theorem push_held (f : Faults) (i n : Nat) {cs : CS} (he : cs.enabled = false) : push f i n cs = ⟨[], cs, true⟩ := by
  cases n <;> simp [push, he]

theorem mem_push {f : Faults} {i n : Nat} {cs : CS} {e : Ev} (h : e ∈ (push f i n cs).evs) : ∃ ok, e = Ev.api i ok := by
  fun_induction push f i n cs with
  | case1 | case4 => cases h
  | case2 => exact ⟨false, List.mem_singleton.mp h⟩
  | case3 n cs he hf r ih =>
    rcases List.mem_cons.mp h with rfl | h
    · exact ⟨true, rfl⟩
    · exact ih h

theorem push_ok (f : Faults) (i n : Nat) (cs : CS) (he : cs.enabled = true) (hok : (push f i n cs).ok = true) :
    (push f i n cs).evs = List.replicate n (Ev.api i true) := by
  fun_induction push f i n cs with
  | case1 => rfl
  | case2 => cases hok
  | case3 n cs _ hf r ih => exact congrArg (Ev.api i true :: ·) (ih he hok)
  | case4 n cs hne => exact absurd he hne

theorem epLoop_gate (plus : Bool) (f : Faults) (rs : List Res) (i : Nat) (cs : CS) :
    (epLoop plus f rs i cs).cs.enabled = cs.enabled := by
  induction rs generalizing i cs with
  | nil => rfl
  | cons r rs ih =>
    rw [epLoop, ih]
    split
    · exact push_gate f i r.ups cs
    · rfl

/-- The loop started at index `i0` writes and pushes resources `≥ i0` and does nothing else. -/
theorem mem_epLoop {plus : Bool} {f : Faults} {rs : List Res} {i0 : Nat} {cs : CS} {e : Ev}
    (h : e ∈ (epLoop plus f rs i0 cs).evs) : ∃ i, i0 ≤ i ∧ ((∃ c, e = Ev.write i c) ∨ ∃ ok, e = Ev.api i ok) := by
  induction rs generalizing i0 cs with
  | nil => cases h
  | cons r rs ih =>
    rw [epLoop] at h
    rcases List.mem_cons.mp h with rfl | h
    · exact ⟨i0, Nat.le_refl _, Or.inl ⟨_, rfl⟩⟩
    · rcases List.mem_append.mp h with h | h
      · split at h
        · exact ⟨i0, Nat.le_refl _, Or.inr (mem_push h)⟩
        · cases h
      · obtain ⟨i, hi, he⟩ := ih h
        exact ⟨i, Nat.le_of_succ_le hi, he⟩

theorem epLoop_held (plus : Bool) (f : Faults) (rs : List Res) (i0 : Nat) {cs : CS} (he : cs.enabled = false) :
    epLoop plus f rs i0 cs = ⟨writes rs i0, cs, false⟩ := by
  induction rs generalizing i0 with
  | nil => rfl
  | cons r rs ih => rw [epLoop, push_held f i0 r.ups he, ite_self, ih]; rfl

/-- If the loop did not ask for a fallback reload, every write of a resource is followed by exactly as many
successful pushes of that resource as it has upstreams. -/
theorem epLoop_pushed (f : Faults) (rs : List Res) (i0 : Nat) (cs : CS) (he : cs.enabled = true)
    (hno : (epLoop true f rs i0 cs).reloadPlus = false) {pre post : List Ev} {i : Nat} {c : Bool}
    (h : (epLoop true f rs i0 cs).evs = pre ++ Ev.write i c :: post) :
    ∃ j r, i = j + i0 ∧ rs[j]? = some r ∧ post.count (Ev.api i true) = r.ups := by
  induction rs generalizing i0 cs pre with
  | nil => cases pre <;> cases h
  | cons r0 rs ih =>
    rw [epLoop] at h hno
    simp only [if_true, Bool.or_eq_false_iff, Bool.not_eq_false'] at h hno
    rw [push_ok f i0 r0.ups cs he hno.1] at h
    cases pre with
    | nil =>
      obtain ⟨h1, rfl⟩ := List.cons.inj h
      obtain ⟨rfl, rfl⟩ := Ev.write.inj h1
      refine ⟨0, r0, (Nat.zero_add i0).symm, rfl, ?_⟩
      have : Ev.api i0 true ∉ (epLoop true f rs (i0 + 1) (push f i0 r0.ups cs).cs).evs := fun hm => by
        obtain ⟨j, hj, ⟨_, hc⟩ | ⟨_, hc⟩⟩ := mem_epLoop hm <;> cases hc
        exact Nat.not_succ_le_self _ hj
      rw [List.count_append, List.count_replicate_self, List.count_eq_zero.2 this, Nat.add_zero]
    | cons p pre =>
      rcases append_eq_append_cons (List.cons.inj h).2 with ⟨m, hm, _⟩ | ⟨m, _, hm⟩
      · cases List.eq_of_mem_replicate (hm ▸ List.mem_append_right pre List.mem_cons_self)
      · obtain ⟨j, r, hi, hr, hc⟩ := ih (i0 + 1) _ ((push_gate ..).trans he) hno.2 hm
        exact ⟨j + 1, r, by omega, hr, hc⟩

/-! #### all operations together

Every operation is a body — move the gate, write files, on NGINX Plus push upstreams — that decides whether a
reload is wanted, followed by the same end: reload if wanted (and the gate is open), then return. The body's
result reuses the model's `EpOut`; its field `reloadPlus` holds "reload wanted". -/

def body (plus : Bool) (f : Faults) (cs : CS) : Op → EpOut
  | .enable => ⟨[], { cs with enabled := true }, false⟩
  | .disable => ⟨[], { cs with enabled := false }, false⟩
  | .always rs => ⟨writes rs 0, cs, true⟩
  | .single r w => ⟨writes [r] 0, if w then { cs with enabled := true } else cs, true⟩
  | .delete r skip => ⟨writes [r] 0, cs, !skip⟩
  | .resources rs riu => ⟨writes rs 0, cs, rs.any (·.changed) || riu⟩
  | .endpoints rs => let l := epLoop plus f rs 0 cs; ⟨l.evs, l.cs, !(plus && !l.reloadPlus)⟩
  | .batchReload flag => ⟨[], cs, flag⟩

def finish (f : Faults) (b : EpOut) : Out :=
  let r := if b.reloadPlus then doReload f b.cs else ⟨[], b.cs, true⟩
  ⟨b.evs ++ r.evs ++ [Ev.ret r.ok], r.cs, r.ok⟩

theorem exec_eq (plus : Bool) (f : Faults) (cs : CS) (op : Op) : exec plus f cs op = finish f (body plus f cs op) := by
  cases op with
  | delete r skip => cases skip <;> rfl
  | resources rs riu => simp only [exec, body, resources, finish]; split <;> simp [*, always]
  | endpoints rs => simp only [exec, body, endpoints, finish]; split <;> simp [*]
  | batchReload flag => cases flag <;> rfl
  | _ => rfl

theorem finish_gate (f : Faults) (b : EpOut) : (finish f b).cs.enabled = b.cs.enabled := by
  unfold finish; split
  · exact doReload_gate f b.cs
  · rfl

theorem finish_evs (f : Faults) (b : EpOut) : (finish f b).evs =
    b.evs ++ (if b.reloadPlus && b.cs.enabled then [Ev.reload (finish f b).ok] else []) ++ [Ev.ret (finish f b).ok] := by
  unfold finish
  cases b.reloadPlus
  · simp
  · simp [doReload_evs]

/-- Where an operation leaves the reload gate. -/
def Op.gate (en : Bool) : Op → Bool
  | .enable => true
  | .disable => false
  | .single _ w => en || w
  | _ => en

theorem body_gate (plus : Bool) (f : Faults) (cs : CS) (op : Op) : (body plus f cs op).cs.enabled = op.gate cs.enabled := by
  cases op with
  | single r w => cases w <;> simp [body, Op.gate]
  | endpoints rs => exact epLoop_gate plus f rs 0 cs
  | _ => rfl

theorem exec_gate (plus : Bool) (f : Faults) (cs : CS) (op : Op) : (exec plus f cs op).cs.enabled = op.gate cs.enabled := by
  rw [exec_eq, finish_gate, body_gate]

theorem body_no_reload (plus : Bool) (f : Faults) (cs : CS) (op : Op) (ok : Bool) : Ev.reload ok ∉ (body plus f cs op).evs := by
  intro h
  cases op with
  | enable | disable | batchReload _ => cases h
  | endpoints rs => obtain ⟨_, _, ⟨_, hc⟩ | ⟨_, hc⟩⟩ := mem_epLoop h <;> cases hc
  | _ => obtain ⟨_, _, _, hc⟩ := mem_writes h; cases hc

theorem body_quiet (plus : Bool) (f : Faults) {cs : CS} (op : Op) (he : cs.enabled = false) : Quiet (body plus f cs op).evs := by
  cases op with
  | enable | disable | batchReload _ => exact quiet_nil
  | endpoints rs => rw [body, epLoop_held plus f rs 0 he]; exact quiet_writes rs 0
  | _ => exact quiet_writes _ _

/-- An operation that promises to leave NGINX up to date when it returns success: everything except the
gate switches and a delete whose caller asked to skip the reload (the batch operations reload afterwards). -/
def Op.applies : Op → Bool
  | .enable | .disable => false
  | .delete _ skip => !skip
  | _ => true

def Op.res : Op → List Res
  | .always rs | .resources rs _ | .endpoints rs => rs
  | .single r _ | .delete r _ => [r]
  | _ => []

/-- A body that wants no reload has changed nothing, or (endpoints operations on NGINX Plus) has pushed everything. -/
theorem body_pushed (plus : Bool) (f : Faults) {cs : CS} (op : Op) (he : cs.enabled = true) (ha : op.applies = true)
    (hno : (body plus f cs op).reloadPlus = false) : AppliedOrPushed op.res ((body plus f cs op).evs ++ [Ev.ret true]) := by
  cases op with
  | enable | disable => cases ha
  | always _ | single _ _ => cases hno
  | delete r skip => cases skip with
    | false => cases hno
    | true => cases ha
  | batchReload _ => exact appliedOrPushed_of_unchanged _ (by simp [body])
  | resources rs riu =>
    refine appliedOrPushed_of_unchanged _ fun i h => ?_
    rcases List.mem_append.mp h with h | h
    · obtain ⟨_, r, hr, hc⟩ := mem_writes h
      have : rs.any (·.changed) = true := List.any_eq_true.2 ⟨r, hr, (Ev.write.inj hc).2.symm⟩
      simp [body, this] at hno
    · cases List.mem_singleton.mp h
  | endpoints rs =>
    intro pre post i r h hr
    simp only [body, Bool.not_eq_false', Bool.and_eq_true, Bool.not_eq_true'] at hno
    obtain ⟨rfl, hno⟩ := hno
    obtain ⟨m, hm, rfl⟩ := append_eq_append_cons_left h (by simp)
    obtain ⟨_, r', rfl, hr', hc⟩ := epLoop_pushed f rs 0 cs he hno hm
    cases Option.some.inj (hr.symm.trans hr')
    right
    rw [List.count_append, hc]; simp

/-- For every Configurator operation, every fault placement, on NGINX and NGINX
Plus: if reloads are enabled and the operation returns success, each file it changed has been followed by a
successful reload or (endpoints operations on NGINX Plus) by successful API pushes of all upstreams of that resource. -/
theorem no_change_left_unapplied (plus : Bool) (f : Faults) (cs : CS) (op : Op) (he : cs.enabled = true)
    (ha : op.applies = true) (hok : (exec plus f cs op).ok = true) : AppliedOrPushed op.res (exec plus f cs op).evs := by
  rw [exec_eq] at hok ⊢
  have hb : (body plus f cs op).cs.enabled = true := by
    rw [body_gate, he]; cases op <;> first | rfl | cases ha
  rw [finish_evs, hok, hb, Bool.and_true]
  cases hf : (body plus f cs op).reloadPlus
  · rw [if_neg Bool.false_ne_true, List.append_nil]
    exact body_pushed plus f op he ha hf
  · rw [if_pos rfl, List.append_assoc]
    exact (applied_of_reload _ true).orPushed _

/-- For every operation, a failed reload makes the operation fail. -/
theorem reload_failure_returned (plus : Bool) (f : Faults) (cs : CS) (op : Op)
    (h : Ev.reload false ∈ (exec plus f cs op).evs) : (exec plus f cs op).ok = false := by
  rw [exec_eq] at h ⊢
  rw [finish_evs] at h
  rcases List.mem_append.mp h with h | h
  · rcases List.mem_append.mp h with h | h
    · exact absurd h (body_no_reload plus f cs op false)
    · split at h
      · exact (Ev.reload.inj (List.mem_singleton.mp h)).symm
      · cases h
  · cases List.mem_singleton.mp h

/-- An operation that respects the reload gate: everything except switching it on, and `AddOrUpdateVirtualServer`
with weight updates (which switches it on itself — finding S-C12-a). -/
def Op.respectsGate : Op → Bool
  | .enable => false
  | .single _ w => !w
  | _ => true

theorem Op.gate_false (op : Op) : op.gate false = !op.respectsGate := by
  cases op <;> simp [Op.gate, Op.respectsGate]

/-- While reloads are held back, no operation that respects the gate reloads NGINX or
pushes through the API, and the gate stays closed. (Full statement — for every operation — is false: see
`held_reload_by_weight_updates`.) -/
theorem held_no_reload_partial (plus : Bool) (f : Faults) (cs : CS) (op : Op) (he : cs.enabled = false)
    (hg : op.respectsGate = true) : Quiet (exec plus f cs op).evs ∧ (exec plus f cs op).cs.enabled = false := by
  have hb : (body plus f cs op).cs.enabled = false := by rw [body_gate, he, Op.gate_false, hg]; rfl
  rw [exec_eq, finish_gate, finish_evs, hb, Bool.and_false]
  exact ⟨quiet_append.2 ⟨quiet_append.2 ⟨body_quiet plus f op he, quiet_nil⟩, quiet_ret _⟩, rfl⟩

/-- **S-C12-a, the model's witness**: `AddOrUpdateVirtualServer` with weight updates reloads although reloads
are held back, and leaves them switched on. -/
theorem held_reload_by_weight_updates :
    let out := exec false ⟨fun _ => false, fun _ => false⟩ ⟨false, 0, 0⟩ (.single ⟨true, 1⟩ true)
    Ev.reload true ∈ out.evs ∧ out.cs.enabled = true := by
  decide

/-- When no write changed anything and the caller does not insist, nothing is reloaded. -/
theorem resources_unchanged_quiet (f : Faults) (rs : List Res) (cs : CS) (hall : rs.any (·.changed) = false) :
    Quiet (resources f rs false cs).evs := by
  unfold resources
  rw [hall]
  exact quiet_append.2 ⟨quiet_writes rs 0, quiet_ret true⟩

/-! ### the gate is moved by EnableReloads / DisableReloads only -/

/-- No operation other than DisableReloads leaves the gate closed behind itself — a change made
after it is never silently held back. -/
theorem gate_not_closed_by_operation (plus : Bool) (f : Faults) (cs : CS) (op : Op) (he : cs.enabled = true)
    (hop : op ≠ .disable) : (exec plus f cs op).cs.enabled = true := by
  rw [exec_gate, he]
  cases op <;> first | rfl | exact absurd rfl hop

/-- While reloads are held back, the only operations that open the gate are EnableReloads
and — finding S-C12-a — AddOrUpdateVirtualServer with weight updates. -/
theorem gate_opened_only_by_enable_or_weights (plus : Bool) (f : Faults) (cs : CS) (op : Op) (he : cs.enabled = false)
    (ho : (exec plus f cs op).cs.enabled = true) : op = .enable ∨ ∃ r, op = .single r true := by
  rw [exec_gate, he] at ho
  cases op with
  | enable => exact Or.inl rfl
  | single r w => cases (ho : w = true); exact Or.inr ⟨r, rfl⟩
  | _ => cases ho

/-! ### Part 2: the controller's start-up / batch machine -/

/-- What the fields of the machine mean together; the states that satisfy it are listed by `Inv.cases`. -/
def Inv (s : BS) : Prop :=
  (s.batch = true → s.enabled = false ∧ s.ready = true) ∧ (s.ready = false → s.enabled = false) ∧
  (s.ready = true → s.batch = false → s.enabled = true) ∧ (s.batch = false → s.flag = false ∧ s.updateAll = false)

def init : BS := ⟨false, false, false, false, false⟩

/-- A task that may have changed what NGINX reads: any but an EndpointSlice no served resource refers to
(`Kind.endpoint false`). -/
def dirty (k : Kind) : Bool := k != Kind.endpoint false

theorem dirty_endpoint (found : Bool) : dirty (.endpoint found) = found := by cases found <;> rfl

def idle : BS := ⟨true, false, false, false, true⟩

def batching (flag updateAll : Bool) : BS := ⟨true, true, flag, updateAll, false⟩

theorem inv_init : Inv init := by simp [Inv, init]

theorem inv_idle : Inv idle := by simp [Inv, idle]

theorem inv_batching (fl u : Bool) : Inv (batching fl u) := by simp [Inv, batching]

theorem Inv.cases {s : BS} (h : Inv s) : s = init ∨ s = idle ∨ ∃ fl u, s = batching fl u := by
  obtain ⟨ready, batch, flag, upd, en⟩ := s
  obtain ⟨h1, h2, h3, h4⟩ := h
  cases batch
  · obtain ⟨rfl, rfl⟩ := h4 rfl
    cases ready
    · cases h2 rfl; exact Or.inl rfl
    · cases h3 rfl rfl; exact Or.inr (Or.inl rfl)
  · obtain ⟨rfl, rfl⟩ := h1 rfl
    exact Or.inr (Or.inr ⟨_, _, rfl⟩)

theorem Inv.eq_idle {s : BS} (h : Inv s) (hr : s.ready = true) (hb : s.batch = false) : s = idle := by
  rcases h.cases with rfl | rfl | ⟨_, _, rfl⟩
  · cases hr
  · rfl
  · cases hb

theorem syncStep_init (k : Kind) (qb qa : Nat) : syncStep init k qb qa =
    ⟨if qa = 0 then idle else init, BEv.handler k false :: if qa = 0 then [BEv.updateAll] else []⟩ := by
  by_cases hz : qa = 0 <;> simp [syncStep, init, idle, hz]

theorem syncStep_idle (k : Kind) {qb : Nat} (qa : Nat) (hq : qb ≤ 1) : syncStep idle k qb qa = ⟨idle, [BEv.handler k true]⟩ := by
  simp [syncStep, idle, Nat.not_lt.2 hq]

theorem syncStep_idle_many (k : Kind) {qb : Nat} (qa : Nat) (hq : qb > 1) :
    syncStep idle k qb qa = syncStep (batching false false) k qb qa := by
  unfold syncStep
  rw [decide_eq_true hq]
  rfl

theorem syncStep_batching (fl u : Bool) (k : Kind) (qb qa : Nat) : syncStep (batching fl u) k qb qa =
    if qa = 0 then
      ⟨idle, BEv.handler k false :: if u || (k == Kind.configMap) then [BEv.updateAll] else [BEv.batchReload (fl || dirty k)]⟩
    else ⟨batching (fl || dirty k) (u || (k == Kind.configMap)), [BEv.handler k false]⟩ := by
  have hc : dirty .configMap = true := rfl
  have ho : dirty .other = true := rfl
  by_cases hz : qa = 0 <;> rcases k with (_ | _) | _ | _ <;>
    simp [syncStep, batching, idle, dirty_endpoint, hc, ho, hz]

theorem inv_step (s : BS) (k : Kind) (qb qa : Nat) (h : Inv s) : Inv (syncStep s k qb qa).s := by
  have batch : ∀ fl u, Inv (syncStep (batching fl u) k qb qa).s := fun fl u => by
    rw [syncStep_batching]; split
    · exact inv_idle
    · exact inv_batching _ _
  rcases h.cases with rfl | rfl | ⟨_, _, rfl⟩
  · rw [syncStep_init]; dsimp only; split
    · exact inv_idle
    · exact inv_init
  · by_cases hq : qb ≤ 1
    · rw [syncStep_idle k qa hq]; exact inv_idle
    · rw [syncStep_idle_many k qa (Nat.lt_of_not_le hq)]; exact batch _ _
  · exact batch _ _

/-- Until NGINX is ready every handler runs with the reload gate closed, and the step that
empties the queue opens it and regenerates-and-reloads everything. -/
theorem startup_held (s : BS) (k : Kind) (qb qa : Nat) (h : Inv s) (hr : s.ready = false) :
    (syncStep s k qb qa).evs = BEv.handler k false :: (if qa = 0 then [BEv.updateAll] else []) ∧
    (syncStep s k qb qa).s.ready = decide (qa = 0) := by
  rcases h.cases with rfl | rfl | ⟨_, _, rfl⟩
  · rw [syncStep_init]; refine ⟨rfl, ?_⟩; dsimp only; split <;> simp [*, idle, init]
  · cases hr
  · cases hr

/-- A ready controller that dequeues a task with nothing else queued runs its handler with
the gate open (the handler's Configurator operations then reload by Part 1) and performs no batch reload. -/
theorem single_task_open (s : BS) (k : Kind) (qb qa : Nat) (h : Inv s) (hr : s.ready = true) (hb : s.batch = false)
    (hq : qb ≤ 1) : (syncStep s k qb qa).evs = [BEv.handler k true] ∧ (syncStep s k qb qa).s.batch = false := by
  cases h.eq_idle hr hb
  rw [syncStep_idle k qa hq]
  exact ⟨rfl, rfl⟩

/-- Run a list of tasks (kind, queue length before, queue length after). -/
def runSteps (s : BS) : List (Kind × Nat × Nat) → BS × List BEv
  | [] => (s, [])
  | t :: ts =>
    let o := syncStep s t.1 t.2.1 t.2.2
    let r := runSteps o.s ts
    (r.1, o.evs ++ r.2)

theorem run_batching (fl u : Bool) (mid : List (Kind × Nat × Nat)) (kl : Kind) (qbl : Nat) (hmid : ∀ t ∈ mid, t.2.2 ≠ 0) :
    (runSteps (batching fl u) (mid ++ [(kl, qbl, 0)])).2 =
      mid.map (fun t => BEv.handler t.1 false) ++ [BEv.handler kl false,
        if u || (mid.any (fun t => t.1 == Kind.configMap)) || (kl == Kind.configMap) then BEv.updateAll
        else BEv.batchReload (fl || mid.any (fun t => dirty t.1) || dirty kl)] := by
  induction mid generalizing fl u with
  | nil =>
    simp only [List.nil_append, runSteps, syncStep_batching, if_true, List.append_nil, List.map_nil, List.any_nil, Bool.or_false]
    split <;> rfl
  | cons t mid ih =>
    simp only [List.cons_append, runSteps, syncStep_batching, if_neg (hmid t List.mem_cons_self), List.map_cons, List.nil_append,
      ih _ _ fun t' ht' => hmid t' (List.mem_cons_of_mem _ ht'), List.any_cons, Bool.or_assoc]

/-- A ready controller that dequeues a task while more are queued opens a
batch; every handler of the batch — however many tasks, of whatever kinds — runs with the reload gate closed,
and exactly one reload decision is taken, after the last handler: everything is regenerated and reloaded if a
ConfigMap task was seen, otherwise NGINX is reloaded iff some task of the batch was not an unreferenced
EndpointSlice. -/
theorem batch_no_reload_inside_and_drain (s : BS) (h : Inv s) (hr : s.ready = true) (hb : s.batch = false)
    (k0 : Kind) (qb0 qa0 : Nat) (mid : List (Kind × Nat × Nat)) (kl : Kind) (qbl : Nat)
    (hq0 : qb0 > 1) (hqa0 : qa0 ≠ 0) (hmid : ∀ t ∈ mid, t.2.2 ≠ 0) :
    (runSteps s ((k0, qb0, qa0) :: mid ++ [(kl, qbl, 0)])).2 =
      BEv.handler k0 false :: mid.map (fun t => BEv.handler t.1 false) ++ [BEv.handler kl false,
        if s.updateAll || (k0 == Kind.configMap) || (mid.any (fun t => t.1 == Kind.configMap)) || (kl == Kind.configMap) then BEv.updateAll
        else BEv.batchReload (dirty k0 || mid.any (fun t => dirty t.1) || dirty kl)] := by
  cases h.eq_idle hr hb
  simp only [List.cons_append, runSteps, syncStep_idle_many k0 qa0 hq0, syncStep_batching, if_neg hqa0,
    run_batching _ _ mid kl qbl hmid, show idle.updateAll = false from rfl, Bool.false_or, List.nil_append]

/-- Under the handlers' contract that a task can change what NGINX reads only if it is
not an unreferenced EndpointSlice, a batch in which some task changed something ends with a reload. -/
theorem drain_reloads_if_changed (s : BS) (h : Inv s) (hr : s.ready = true) (hb : s.batch = false)
    (k0 : Kind) (qb0 qa0 : Nat) (mid : List (Kind × Nat × Nat)) (kl : Kind) (qbl : Nat)
    (hq0 : qb0 > 1) (hqa0 : qa0 ≠ 0) (hmid : ∀ t ∈ mid, t.2.2 ≠ 0)
    (hch : dirty k0 = true ∨ (∃ t ∈ mid, dirty t.1 = true) ∨ dirty kl = true) :
    BEv.updateAll ∈ (runSteps s ((k0, qb0, qa0) :: mid ++ [(kl, qbl, 0)])).2 ∨
    BEv.batchReload true ∈ (runSteps s ((k0, qb0, qa0) :: mid ++ [(kl, qbl, 0)])).2 := by
  rw [batch_no_reload_inside_and_drain s h hr hb k0 qb0 qa0 mid kl qbl hq0 hqa0 hmid]
  have hd : (dirty k0 || mid.any (fun t => dirty t.1) || dirty kl) = true := by
    simpa only [Bool.or_eq_true, List.any_eq_true, or_assoc] using hch
  rw [hd]
  split
  · left; simp
  · right; simp

/-- **S-C12-b, the model's witness** (the "only if" half fails): a batch made of tasks that are not EndpointSlices is
reloaded at the drain although the machine has no information that any of them changed a file. -/
theorem drain_reload_without_change :
    (runSteps ⟨true, false, false, false, true⟩ [(Kind.other, 2, 1), (Kind.endpoint false, 1, 0)]).2 =
      [BEv.handler Kind.other false, BEv.handler (Kind.endpoint false) false, BEv.batchReload true] := by
  decide

/-! ### non-vacuity -/

example : (endpoints true ⟨fun _ => false, fun n => n == 1⟩ [⟨true, 1⟩, ⟨true, 1⟩] ⟨true, 0, 0⟩).evs =
    [Ev.write 0 true, Ev.api 0 false, Ev.write 1 true, Ev.api 1 true, Ev.reload true, Ev.ret true] := by decide

example : (endpoints true ⟨fun _ => false, fun _ => false⟩ [⟨true, 2⟩] ⟨true, 0, 0⟩).evs =
    [Ev.write 0 true, Ev.api 0 true, Ev.api 0 true, Ev.ret true] := by decide

example : Inv ⟨true, false, false, false, true⟩ := inv_idle

end Nic.Reload
