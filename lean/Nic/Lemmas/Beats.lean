/-
  `beats` (chooseObjectMetaWinner) is a strict total order on metas with distinct UIDs; "is not
  beaten by" is a total preorder on all metas, and the running-holder loop of the host and listener
  builds (`if !holder.Wins(r) { holder = r }`) ends on a least element of it.
-/
import Nic.Model.Arb
namespace Nic.Arb

theorem beats_iff (a b : Meta) :
    beats a b = true ↔ (a.ts = b.ts ∧ b.uid < a.uid) ∨ a.ts < b.ts := by
  unfold beats
  by_cases e : a.ts = b.ts <;> simp [e]

theorem beats_eq_false_iff (a b : Meta) :
    beats a b = false ↔ (a.ts = b.ts ∧ a.uid ≤ b.uid) ∨ b.ts < a.ts := by
  rw [← Bool.not_eq_true, beats_iff]; omega

theorem beats_irrefl (a : Meta) : beats a a = false := by simp [beats]

theorem beats_asymm {a b : Meta} (h : beats a b = true) : beats b a = false := by
  rw [beats_iff] at h; rw [beats_eq_false_iff]; omega

theorem beats_trans {a b c : Meta} (h1 : beats a b = true) (h2 : beats b c = true) : beats a c = true := by
  rw [beats_iff] at *; omega

theorem beats_total {a b : Meta} (h : a.uid ≠ b.uid) : beats a b = true ∨ beats b a = true := by
  rw [beats_iff, beats_iff]; omega

/-- With distinct UIDs, "does not beat" is "is beaten by". -/
theorem not_beats {a b : Meta} (h : a.uid ≠ b.uid) (hb : beats a b = false) : beats b a = true := by
  rw [beats_eq_false_iff] at hb; rw [beats_iff]; omega

/-- "Is not beaten by" is transitive, whatever the UIDs. -/
theorem beats_ge_trans {a b c : Meta} (h1 : beats b a = false) (h2 : beats c b = false) : beats c a = false := by
  rw [beats_eq_false_iff] at *; omega

section Holder
variable {α : Type} (md : α → Meta)

/-- One step of the holder comparison in `Build.claim` and `lstep`:
`if !holder.Wins(r) { holder = r }`. -/
def hstep (holder : Option α) (r : α) : Option α :=
  match holder with
  | none => some r
  | some h => if !(beats (md h) (md r)) then some r else some h

theorem hstep_some (h r : α) : hstep md (some h) r = some (if beats (md h) (md r) then h else r) := by
  show (if !(beats (md h) (md r)) then some r else some h) = _
  cases beats (md h) (md r) <;> rfl

/-- `c` is a champion of `l`: a member that beats every member with another UID. -/
def IsChampion (l : List α) (c : α) : Prop :=
  c ∈ l ∧ ∀ x ∈ l, (md x).uid ≠ (md c).uid → beats (md c) (md x) = true

/-- **The running-holder fold ends on a member that no member beats** — for any list, in any order,
with or without repeated UIDs. (The new holder is not beaten by the old one, and "not beaten by" is
transitive.) -/
theorem foldl_hstep_unbeaten (h : α) (l : List α) :
    ∃ c, l.foldl (hstep md) (some h) = some c ∧ c ∈ h :: l ∧ ∀ x ∈ h :: l, beats (md x) (md c) = false := by
  induction l generalizing h with
  | nil => exact ⟨h, rfl, List.mem_cons_self, fun x hx => List.mem_singleton.mp hx ▸ beats_irrefl _⟩
  | cons a r ih =>
    rw [List.foldl_cons, hstep_some]
    cases hb : beats (md h) (md a)
    · -- `a` takes over: `h` does not beat `a`, and nobody beats `c` from `a` on
      obtain ⟨c, hc, hmem, hmin⟩ := ih a
      exact ⟨c, hc, List.mem_cons_of_mem _ hmem,
        List.forall_mem_cons.mpr ⟨beats_ge_trans (hmin a List.mem_cons_self) hb, hmin⟩⟩
    · -- `h` stays: `a`, which `h` beats, does not beat `c` either
      obtain ⟨c, hc, hmem, hmin⟩ := ih h
      obtain ⟨hh, hr⟩ := List.forall_mem_cons.mp hmin
      exact ⟨c, hc, List.cons_subset_cons h (List.subset_cons_self a r) hmem,
        List.forall_mem_cons.mpr ⟨hh, List.forall_mem_cons.mpr ⟨beats_ge_trans hh (beats_asymm hb), hr⟩⟩⟩

theorem fold_hstep_some (h : α) (l : List α) : ∃ c, l.foldl (hstep md) (some h) = some c :=
  let ⟨c, hc, _⟩ := foldl_hstep_unbeaten md h l; ⟨c, hc⟩

theorem isChampion_of_unbeaten {l : List α} {c : α} (hm : c ∈ l) (h : ∀ x ∈ l, beats (md x) (md c) = false) :
    IsChampion md l c :=
  ⟨hm, fun x hx hne => not_beats hne (h x hx)⟩

theorem champion_unique {l : List α} {c d : α} (hc : IsChampion md l c) (hdd : IsChampion md l d) :
    (md c).uid = (md d).uid :=
  Decidable.byContradiction fun h =>
    Bool.false_ne_true ((beats_asymm (hc.2 d hdd.1 (Ne.symm h))).symm.trans (hdd.2 c hc.1 h))

/-- Being a champion only mentions membership, so the order of the list does not matter. -/
theorem isChampion_congr {l l' : List α} (hp : ∀ x, x ∈ l ↔ x ∈ l') (c : α) :
    IsChampion md l c ↔ IsChampion md l' c := by
  simp only [IsChampion, hp]

end Holder
end Nic.Arb
