import Nic.Lemmas.Tmpl
import Nic.Props.C06
import Nic.Lemmas.ListSet
/-!
  Soundness of the template analysis.  `RenderTL t s cs` says that `cs` is a possible output of template `t` when
  rendering starts with the tokenizer in state `s`: every branch combination, any number of range iterations, and at
  every interpolation site any value admissible for the lexical context the site stands in (`HoleVal`) or, for
  fragment sites, any closed piece of configuration (`FragVal`).  `soundTL`: if the analysis maps a state set
  containing (the clipped) `s` to `ss'`, then reading `cs` from `s` produces no error and ends in a state of `ss'`.
-/
namespace Nic.Tmpl
open Nic.NgxLex Nic.Props.C06

/-! ### what may be written at an interpolation site -/

def HoleVal (s : St) (v : List Char) : Prop :=
  match s.mode with
  | .space => (s.nargs ≠ 0 ∧ v = []) ∨ TokenSafe v
  | .word => v = [] ∨ WordSafe v
  | .dq => QuoteSafe '"' v
  | .sq => QuoteSafe '\'' v
  | .need => v = []
  | .comment => '\n' ∉ v

def FragVal (s : St) (v : List Char) : Prop := ∃ evs, run s v = (s, evs) ∧ Ev.err ∉ evs

/-- `n` consecutive renderings by `P`, each starting where the previous one left the tokenizer -/
def Iter (P : St → List Char → Prop) : Nat → St → List Char → Prop
  | 0, _, cs => cs = []
  | n + 1, s, cs => ∃ a b, cs = a ++ b ∧ P s a ∧ Iter P n (run s a).1 b

mutual
def RenderT : T → St → List Char → Prop
  | .text str, _, cs => cs = str.toList
  | .hole false _, s, cs => HoleVal s cs
  | .hole true _, s, cs => FragVal s cs
  | .ite a b, s, cs => RenderTL a s cs ∨ RenderTL b s cs
  | .loop body els, s, cs => RenderTL els s cs ∨ ∃ n, Iter (fun s' cs' => RenderTL body s' cs') (n + 1) s cs
def RenderTL : TL → St → List Char → Prop
  | .nil, _, cs => cs = []
  | .cons t r, s, cs => ∃ a b, cs = a ++ b ∧ RenderT t s a ∧ RenderTL r (run s a).1 b
end

/-! ### state sets -/

theorem mem_addState (acc : List St) (s x : St) : x ∈ addState acc s ↔ x ∈ acc ∨ x = s := mem_insertNew

theorem mem_union (a b : List St) (x : St) : x ∈ union a b ↔ x ∈ a ∨ x ∈ b := mem_foldl_insertNew b a x

theorem union_same_length (a b : List St) (h : (union a b).length = a.length) : ∀ x ∈ b, x ∈ a := by
  intro x hx
  rw [(prefix_foldl_insertNew b a).eq_of_length h.symm]
  exact (mem_union a b x).mpr (Or.inr hx)

theorem mapStates_mem (f : St → Option (List St)) : ∀ (ss out : List St), mapStates f ss = some out →
    ∀ q ∈ ss, ∃ r, f q = some r ∧ ∀ x ∈ r, x ∈ out := by
  intro ss
  fun_induction mapStates f ss with
  | case1 => intro out _ q hq; cases hq
  | case2 s rest a b hb ha ih =>
    intro out h q hq
    cases h
    rcases List.mem_cons.mp hq with rfl | hq'
    · exact ⟨a, ha, fun x hx => (mem_union a b x).mpr (Or.inl hx)⟩
    · obtain ⟨r, hr, hsub⟩ := ih b hb q hq'
      exact ⟨r, hr, fun x hx => (mem_union a b x).mpr (Or.inr (hsub x hx))⟩
  | case3 => intro out h; cases h

/-- What the analysis has checked when it accepts a loop: the states `z` of the else branch, and a set `X` of states
before an iteration that contains `ss` and is closed under the body, whose result on `X` is `F`. -/
theorem runT_loop {body els : TL} {ss ss' : List St} (h : runT (.loop body els) ss = some ss') :
    ∃ z X F, runTL els ss = some z ∧ (∀ x ∈ ss, x ∈ X) ∧ runTL body X = some F ∧ (∀ x ∈ F, x ∈ X) ∧
      ss' = union z F := by
  simp only [runT] at h
  split at h
  · rename_i z f0 hz _
    split at h
    · cases h
    split at h
    · cases h
    split at h
    · cases h
    rename_i f3 hf3
    split at h
    · rename_i hlen
      cases h
      exact ⟨z, _, f3, hz, fun x hx => by simp only [mem_union, hx, true_or], hf3,
        union_same_length _ _ (by simpa using hlen), rfl⟩
    · cases h
  · cases h

/-! ### invariants of concrete states -/

def Good (s : St) : Prop := s.err = false ∧ Between s

theorem good_init : Good init := ⟨rfl, fun _ => ⟨rfl, rfl⟩⟩

theorem good_run (s : St) (cs : List Char) (hg : Good s) (he : (run s cs).1.err = false) : Good (run s cs).1 :=
  ⟨he, between_run cs s hg.2⟩

/-- Reading `cs` from `s` raises no error and ends, up to the argument count, in a state of `out`: what the analysis
claims about every rendering of a node. (The middle part follows from the first by `run_noerr`.) -/
def Lands (s : St) (cs : List Char) (out : List St) : Prop :=
  (run s cs).1.err = false ∧ Ev.err ∉ (run s cs).2 ∧ clip (run s cs).1 ∈ out

theorem Lands.of_run {s t : St} {cs : List Char} {out : List St} (h : run s cs = (t, [])) (he : t.err = false)
    (hm : clip t ∈ out) : Lands s cs out := by
  unfold Lands; rw [h]; exact ⟨he, List.not_mem_nil, hm⟩

theorem Lands.mono {s : St} {cs : List Char} {a b : List St} (h : Lands s cs a) (hsub : ∀ x ∈ a, x ∈ b) :
    Lands s cs b := ⟨h.1, h.2.1, hsub _ h.2.2⟩

theorem Lands.union {s : St} {cs : List Char} {a b : List St} (h : Lands s cs a ∨ Lands s cs b) :
    Lands s cs (union a b) :=
  h.elim (·.mono fun _ m => (mem_union a b _).mpr (Or.inl m)) (·.mono fun _ m => (mem_union a b _).mpr (Or.inr m))

theorem Lands.append {s : St} {a b : List Char} {x y : List St} (ha : Lands s a x) (hb : Lands (run s a).1 b y) :
    Lands s (a ++ b) y := by
  unfold Lands; rw [run_append]
  exact ⟨hb.1, fun h => (List.mem_append.mp h).elim ha.2.1 hb.2.1, hb.2.2⟩

/-- The states the analysis lists after a value site contain what any admissible value does. -/
theorem holeVal_sound (s : St) (v : List Char) (hg : Good s) (hv : HoleVal s v) (out : List St)
    (ho : holeStates false (clip s) = some out) :
    (run s v).1.err = false ∧ Ev.err ∉ (run s v).2 ∧ clip (run s v).1 ∈ out := by
  obtain ⟨hr, hb⟩ := hg
  obtain ⟨m, e, x, n, d, r⟩ := s
  cases hr
  cases e with
  | true => cases ho
  | false =>
    have h1 : ∀ k, min (k + 1) 1 = 1 := fun k => by omega
    cases m <;> simp only [HoleVal] at hv <;> simp only [holeStates, clip, Bool.false_eq_true, if_false] at ho
    · -- between tokens: `var` is not set; the analysis distinguishes a first word from a further argument
      obtain ⟨rfl, -⟩ := hb (Or.inl rfl)
      cases n <;> simp [h1] at ho hv <;> subst ho
      · exact Lands.of_run (token_hole_inert _ v rfl rfl rfl rfl hv) rfl (by simp [clip])
      · rcases hv with rfl | hv
        · exact Lands.of_run rfl rfl (by simp [clip, h1])
        · exact Lands.of_run (token_hole_inert _ v rfl rfl rfl rfl hv) rfl (by simp [clip, h1])
    · cases Option.some.inj ho
      rcases hv with rfl | hv
      · exact Lands.of_run rfl rfl (by cases x <;> simp [clip])
      · exact Lands.of_run (word_hole_inert _ v rfl rfl rfl hv) rfl (by cases x <;> simp [clip])
    · cases Option.some.inj ho
      obtain ⟨b, hb'⟩ := quote_hole_inert '"' ⟨.dq, false, x, n, d, false⟩ v (Or.inl ⟨rfl, rfl⟩) rfl rfl hv
      exact Lands.of_run hb' rfl (by cases b <;> simp [clip])
    · cases Option.some.inj ho
      obtain ⟨b, hb'⟩ := quote_hole_inert '\'' ⟨.sq, false, x, n, d, false⟩ v (Or.inr ⟨rfl, rfl⟩) rfl rfl hv
      exact Lands.of_run hb' rfl (by cases b <;> simp [clip])
    · cases Option.some.inj ho
      subst hv; exact Lands.of_run rfl rfl (by simp [clip])
    · cases Option.some.inj ho
      exact Lands.of_run (run_comment v _ rfl rfl hv) rfl (by simp [clip])

theorem fragVal_sound (s : St) (v : List Char) (hg : Good s) (hv : FragVal s v) (out : List St)
    (ho : holeStates true (clip s) = some out) :
    (run s v).1.err = false ∧ Ev.err ∉ (run s v).2 ∧ clip (run s v).1 ∈ out := by
  obtain ⟨evs, hrun, hne⟩ := hv
  rw [hrun]
  refine ⟨hg.1, hne, ?_⟩
  simp only [holeStates, if_true] at ho
  split at ho
  · cases ho
  split at ho
  · cases ho
    exact List.mem_singleton_self _
  · cases ho

/-! ### the analysis is sound -/

/-- what soundness means for one node (`R` = its possible outputs, `f` = what the analysis computes for it) -/
def Sound (R : St → List Char → Prop) (f : List St → Option (List St)) : Prop :=
  ∀ (s : St) (cs : List Char) (ss ss' : List St), Good s → clip s ∈ ss → f ss = some ss' → R s cs →
    (run s cs).1.err = false ∧ Ev.err ∉ (run s cs).2 ∧ clip (run s cs).1 ∈ ss'

/-- one or more iterations of a loop body whose analysis is closed on `X` -/
theorem iter_sound (R : St → List Char → Prop) (f : List St → Option (List St)) (hs : Sound R f)
    (X F : List St) (hrun : f X = some F) (hsub : ∀ x ∈ F, x ∈ X) :
    ∀ (n : Nat) (s : St) (cs : List Char), Good s → clip s ∈ X → Iter R (n + 1) s cs →
      (run s cs).1.err = false ∧ Ev.err ∉ (run s cs).2 ∧ clip (run s cs).1 ∈ F := by
  intro n
  induction n with
  | zero =>
    rintro s cs hg hin ⟨a, b, rfl, hP, rfl⟩
    simpa using hs s a X F hg hin hrun hP
  | succ k ih =>
    rintro s cs hg hin ⟨a, b, rfl, hP, hrest⟩
    have h1 : Lands s a F := hs s a X F hg hin hrun hP
    exact h1.append (ih _ b (good_run s a hg h1.1) (hsub _ h1.2.2) hrest)

mutual
theorem soundT : ∀ t : T, Sound (RenderT t) (runT t)
  | .text str => by
    intro s cs ss ss' hg hin hf hR
    simp only [RenderT] at hR
    subst hR
    simp only [runT] at hf
    obtain ⟨r, hr, hsub⟩ := mapStates_mem _ ss ss' hf (clip s) hin
    obtain ⟨t, hrt, rfl⟩ := Option.map_eq_some_iff.mp hr
    obtain ⟨a, b, c⟩ := runText_sound str.toList s t hg.1 hrt
    exact ⟨a, c, hsub _ (by simp [b])⟩
  | .hole false _ => by
    intro s cs ss ss' hg hin hf hR
    obtain ⟨r, hr, hsub⟩ := mapStates_mem _ ss ss' hf (clip s) hin
    exact Lands.mono (holeVal_sound s cs hg hR r hr) hsub
  | .hole true _ => by
    intro s cs ss ss' hg hin hf hR
    obtain ⟨r, hr, hsub⟩ := mapStates_mem _ ss ss' hf (clip s) hin
    exact Lands.mono (fragVal_sound s cs hg hR r hr) hsub
  | .ite a b => by
    intro s cs ss ss' hg hin hf hR
    simp only [runT] at hf
    split at hf
    · rename_i x y hx hy
      cases hf
      exact Lands.union (Or.imp (soundTL a s cs ss x hg hin hx) (soundTL b s cs ss y hg hin hy) hR)
    · cases hf
  | .loop body els => by
    intro s cs ss ss' hg hin hf hR
    obtain ⟨z, X, F, hz, hX, hF, hcl, rfl⟩ := runT_loop hf
    exact Lands.union (Or.imp (soundTL els s cs ss z hg hin hz)
      (fun ⟨n, hR⟩ => iter_sound _ _ (soundTL body) X F hF hcl n s cs hg (hX _ hin) hR) hR)
theorem soundTL : ∀ t : TL, Sound (RenderTL t) (runTL t)
  | .nil => by
    intro s cs ss ss' hg hin hf hR
    simp only [RenderTL] at hR
    subst hR
    cases Option.some.inj hf
    exact Lands.of_run rfl hg.1 hin
  | .cons t r => by
    intro s cs ss ss' hg hin hf hR
    simp only [RenderTL] at hR
    obtain ⟨a, b, rfl, hRa, hRb⟩ := hR
    simp only [runTL] at hf
    split at hf
    · cases hf
    · rename_i ss1 h1
      have h : Lands s a ss1 := soundT t s a ss ss1 hg hin h1 hRa
      exact h.append (soundTL r _ b ss1 ss' (good_run s a hg h.1) h.2.2 hf hRb)
end

end Nic.Tmpl
