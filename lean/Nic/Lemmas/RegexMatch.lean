import Nic.Model.Regex
/-!
  The executable matcher `matchB` (Brzozowski derivatives with smart constructors) decides exactly the
  language `Matches`: so what the `re` correspondence compares with Go's `regexp` is the semantics the C06
  theorems are stated for.
-/
namespace Nic.Regex

theorem matches_eps_iff {s : List Char} : Matches .eps s ↔ s = [] := by
  constructor
  · intro h; cases h; rfl
  · intro h; subst h; exact .eps

theorem not_matches_nil {s : List Char} : ¬ Matches .nil s := by intro h; cases h

theorem matches_cls_iff {rs : Ranges} {s : List Char} : Matches (.cls rs) s ↔ ∃ c, inRanges rs c.toNat = true ∧ s = [c] := by
  constructor
  · intro h; cases h with | cls hc => exact ⟨_, hc, rfl⟩
  · rintro ⟨c, hc, rfl⟩; exact .cls hc

theorem matches_cat_iff {a b : Re} {s : List Char} : Matches (.cat a b) s ↔ ∃ s₁ s₂, Matches a s₁ ∧ Matches b s₂ ∧ s = s₁ ++ s₂ := by
  constructor
  · intro h; cases h with | cat h1 h2 => exact ⟨_, _, h1, h2, rfl⟩
  · rintro ⟨s₁, s₂, h1, h2, rfl⟩; exact .cat h1 h2

theorem matches_alt_iff {a b : Re} {s : List Char} : Matches (.alt a b) s ↔ Matches a s ∨ Matches b s := by
  constructor
  · intro h; cases h with
    | altL h => exact Or.inl h
    | altR h => exact Or.inr h
  · rintro (h | h)
    · exact .altL h
    · exact .altR h

/-! ### matching a non-empty string: what `deriv` has to compute

A split `c :: s = s₁ ++ s₂` either has `s₁ = []` or gives `c` to `s₁` (`List.cons_eq_append_iff`). -/

theorem matches_cls_cons_iff {rs : Ranges} {c : Char} {s : List Char} :
    Matches (.cls rs) (c :: s) ↔ inRanges rs c.toNat = true ∧ s = [] := by
  rw [matches_cls_iff]
  constructor
  · rintro ⟨_, h, e⟩; cases e; exact ⟨h, rfl⟩
  · rintro ⟨h, rfl⟩; exact ⟨c, h, rfl⟩

theorem matches_cat_cons_iff {a b : Re} {c : Char} {s : List Char} : Matches (.cat a b) (c :: s) ↔
    (∃ s₁ s₂, Matches a (c :: s₁) ∧ Matches b s₂ ∧ s = s₁ ++ s₂) ∨ (Matches a [] ∧ Matches b (c :: s)) := by
  simp only [matches_cat_iff, List.cons_eq_append_iff]
  constructor
  · rintro ⟨_, s₂, h1, h2, ⟨rfl, rfl⟩ | ⟨s₁, rfl, rfl⟩⟩
    · exact .inr ⟨h1, h2⟩
    · exact .inl ⟨s₁, s₂, h1, h2, rfl⟩
  · rintro (⟨s₁, s₂, h1, h2, rfl⟩ | ⟨h1, h2⟩)
    · exact ⟨_, _, h1, h2, .inr ⟨_, rfl, rfl⟩⟩
    · exact ⟨_, _, h1, h2, .inl ⟨rfl, rfl⟩⟩

/-- Iterations that match the empty string are skipped: induction on the derivation. -/
theorem matches_star_cons_iff {a : Re} {c : Char} {s : List Char} :
    Matches (.star a) (c :: s) ↔ ∃ s₁ s₂, Matches a (c :: s₁) ∧ Matches (.star a) s₂ ∧ s = s₁ ++ s₂ := by
  constructor
  · generalize hr : Re.star a = r, ht : c :: s = t
    intro h
    induction h with
    | eps | cls _ | cat _ _ _ _ | altL _ _ | altR _ _ => cases hr
    | starNil => cases ht
    | @starCons _ _ s₂ h1 h2 _ ih2 =>
      cases hr
      rcases List.cons_eq_append_iff.mp ht with ⟨rfl, rfl⟩ | ⟨s₁, rfl, rfl⟩
      · exact ih2 rfl rfl
      · exact ⟨s₁, s₂, h1, h2, rfl⟩
  · rintro ⟨s₁, s₂, h1, h2, rfl⟩
    exact .starCons h1 h2

theorem nullable_iff (r : Re) : nullable r = true ↔ Matches r [] := by
  induction r with
  | eps => simp [nullable, matches_eps_iff]
  | nil => simp [nullable, not_matches_nil]
  | cls rs => simp [nullable, matches_cls_iff]
  | cat a b iha ihb => simp [nullable, iha, ihb, matches_cat_iff]
  | alt a b iha ihb => simp [nullable, iha, ihb, matches_alt_iff]
  | star a _ => simp only [nullable, true_iff]; exact .starNil

theorem mkCat_iff (a b : Re) (s : List Char) : Matches (mkCat a b) s ↔ Matches (.cat a b) s := by
  unfold mkCat
  split
  · simp [not_matches_nil, matches_cat_iff]
  · simp [not_matches_nil, matches_cat_iff]
  · simp [matches_eps_iff, matches_cat_iff]
  · simp [matches_eps_iff, matches_cat_iff]
  · rfl

theorem mkAlt_iff (a b : Re) (s : List Char) : Matches (mkAlt a b) s ↔ Matches (.alt a b) s := by
  unfold mkAlt
  split
  · simp [not_matches_nil, matches_alt_iff]
  · simp [not_matches_nil, matches_alt_iff]
  · split
    · rename_i h; subst h; simp [matches_alt_iff]
    · rfl

theorem deriv_iff (c : Char) (r : Re) : ∀ s, Matches (deriv c r) s ↔ Matches r (c :: s) := by
  induction r with
  | eps => intro s; simp [deriv, not_matches_nil, matches_eps_iff]
  | nil => intro s; simp [deriv, not_matches_nil]
  | cls rs =>
    intro s
    rw [matches_cls_cons_iff, deriv]
    split <;> simp [*, matches_eps_iff, not_matches_nil]
  | cat a b iha ihb =>
    intro s
    rw [matches_cat_cons_iff, ← nullable_iff, deriv]
    split
    · rename_i hn
      simp only [mkAlt_iff, matches_alt_iff, mkCat_iff, matches_cat_iff, iha, ihb, hn, true_and]
    · rename_i hn
      simp only [mkCat_iff, matches_cat_iff, iha, hn, Bool.false_eq_true, false_and, or_false]
  | alt a b iha ihb =>
    intro s
    rw [deriv, mkAlt_iff, matches_alt_iff, matches_alt_iff, iha, ihb]
  | star a iha =>
    intro s
    simp only [deriv, mkCat_iff, matches_cat_iff, iha, matches_star_cons_iff]

/-- The executable matcher decides the language. -/
theorem matchB_iff (s : List Char) : ∀ r : Re, matchB r s = true ↔ Matches r s := by
  induction s with
  | nil => intro r; simp [matchB, nullable_iff]
  | cons c cs ih => intro r; simp only [matchB]; rw [ih, deriv_iff]

end Nic.Regex
