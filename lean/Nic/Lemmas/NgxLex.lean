import Nic.Model.NgxLex
/-!
  Helper lemmas about the NGINX tokenizer model: which strings are inert in which lexical context.
  Property theorems built on them are in `Nic/Props/C06.lean` and `Nic/Props/C07.lean`.
-/
namespace Nic.NgxLex

theorem run_nil (s : St) : run s [] = (s, []) := rfl

theorem run_cons (s : St) (c : Char) (cs : List Char) :
    run s (c :: cs) = ((run (step s c).1 cs).1, (step s c).2 ++ (run (step s c).1 cs).2) := rfl

theorem run_append (s : St) (a b : List Char) :
    run s (a ++ b) = ((run (run s a).1 b).1, (run s a).2 ++ (run (run s a).1 b).2) := by
  induction a generalizing s with
  | nil => simp [run_nil]
  | cons c cs ih => simp [run_cons, ih, List.append_assoc]

theorem step_err (s : St) (c : Char) (h : s.err = true) : step s c = (s, []) := by
  simp [step, h]

theorem run_stuck (s : St) (cs : List Char) (h : ∀ c ∈ cs, step s c = (s, [])) : run s cs = (s, []) := by
  induction cs with
  | nil => rfl
  | cons c cs ih => rw [run_cons, h c List.mem_cons_self, ih fun c hc => h c (List.mem_cons_of_mem _ hc)]; rfl

theorem run_err (s : St) (cs : List Char) (h : s.err = true) : run s cs = (s, []) :=
  run_stuck s cs fun c _ => step_err s c h

theorem step_err_event (s : St) (c : Char) : Ev.err ∈ (step s c).2 → (step s c).1.err = true := by
  fun_cases step s c <;> simp [fail, endDir, openBlock]

/-- The error flag is never cleared, so a run that ends without it has reported no error. -/
theorem run_noerr (cs : List Char) : ∀ s, (run s cs).1.err = false → Ev.err ∉ (run s cs).2 := by
  induction cs with
  | nil => intro s _; simp [run_nil]
  | cons c cs ih =>
    intro s h
    rw [run_cons] at h ⊢
    cases he : (step s c).1.err
    · exact fun hm => (List.mem_append.mp hm).elim (fun h1 => by rw [step_err_event s c h1] at he; cases he) (ih _ h)
    · rw [run_err _ cs he, he] at h; cases h

theorem run_comment (v : List Char) : ∀ s : St, s.mode = .comment → s.err = false → '\n' ∉ v → run s v = (s, []) :=
  fun s hm hr hn => run_stuck s v fun c hc => by
    have hc : (c == '\n') = false := beq_false_of_ne fun e => hn (e ▸ hc)
    simp [step, hm, hr, hc]

/-! ### quoted contexts -/

/-- The language `([^q\\]|\\.)*` with `.` = any character, as an automaton with an escape flag: every
quote character `q` is escaped and the string does not end in the middle of an escape. -/
def qGo (q : Char) (esc : Bool) : List Char → Bool
  | [] => !esc
  | c :: cs =>
    if esc then qGo q false cs
    else if c == '\\' then qGo q true cs
    else if c == q then false
    else qGo q false cs

def dqSafe (cs : List Char) : Bool := qGo '"' false cs
def sqSafe (cs : List Char) : Bool := qGo '\'' false cs

/-- `s` is inside a string quoted by `q`. -/
def InQuote (s : St) (q : Char) : Prop := (s.mode = .dq ∧ q = '"') ∨ (s.mode = .sq ∧ q = '\'')

/-- `step` inside a quoted token, in the shape of `qGo`. The `{`-after-`$` and `$` tests of `step` only choose the new
`var`, and a character that meets one of them is neither the backslash nor the quote. -/
theorem step_quote (s : St) (q c : Char) (hm : InQuote s q) (hr : s.err = false) :
    step s c =
      if s.esc then ({ s with esc := false }, [])
      else if c == '\\' then ({ s with var := false, esc := true }, [])
      else if c == q then ({ s with var := false, mode := .need, nargs := s.nargs + 1 }, [])
      else ({ s with var := c == '{' && s.var || c == '$' }, []) := by
  obtain ⟨m, e, v, n, d, r⟩ := s
  cases hr
  rcases hm with ⟨hm, rfl⟩ | ⟨hm, rfl⟩
  all_goals
    cases hm
    by_cases h1 : c = '{'
    · subst h1
      cases v <;> simp [step]
    by_cases h2 : c = '$'
    · subst h2
      simp [step]
    · simp [step, beq_false_of_ne h1, beq_false_of_ne h2]

/-- A `q`-safe string read inside a `q`-quoted token: no event, still inside the token, no pending escape. -/
theorem run_quote (q : Char) (cs : List Char) (s : St) (hm : InQuote s q) (hr : s.err = false)
    (h : qGo q s.esc cs = true) : ∃ v, run s cs = ({ s with var := v, esc := false }, []) := by
  generalize he : s.esc = e at h
  fun_induction qGo q e cs generalizing s with
  | case1 e =>
    cases e
    · exact ⟨s.var, by rw [← he]; rfl⟩
    · cases h
  | case2 c cs ih => -- an escaped character
    obtain ⟨v, hv⟩ := ih { s with esc := false } hm hr rfl h
    exact ⟨v, by simp [run_cons, step_quote s q c hm hr, he, hv]⟩
  | case3 e c cs he' hb ih => -- the backslash
    obtain ⟨v, hv⟩ := ih { s with var := false, esc := true } hm hr rfl h
    exact ⟨v, by simp [run_cons, step_quote s q c hm hr, he, he', hb, hv]⟩
  | case4 => cases h -- the quote: not `q`-safe
  | case5 e c cs he' hb hq ih => -- any other character
    obtain ⟨v, hv⟩ := ih { s with var := c == '{' && s.var || c == '$', esc := false } hm hr rfl h
    exact ⟨v, by simp [run_cons, step_quote s q c hm hr, he, he', hb, hq, hv]⟩

/-! ### `var` is unobservable inside quotes -/

/-- Equal, or both inside the same quoted token and differing only in `var`. -/
def QSim (s t : St) : Prop :=
  s = t ∨ ((s.mode = .dq ∨ s.mode = .sq) ∧ t = { s with var := t.var })

theorem QSim.refl (s : St) : QSim s s := Or.inl rfl

theorem step_qsim (s t : St) (c : Char) (h : QSim s t) :
    QSim (step s c).1 (step t c).1 ∧ (step s c).2 = (step t c).2 := by
  rcases h with rfl | ⟨hm, ht⟩
  · exact ⟨Or.inl rfl, rfl⟩
  generalize t.var = b at ht
  subst ht
  rcases Bool.eq_false_or_eq_true s.err with hr | hr
  · rw [step_err s c hr, step_err { s with var := b } c hr]
    exact ⟨Or.inr ⟨hm, rfl⟩, rfl⟩
  · obtain ⟨q, hq⟩ : ∃ q, InQuote s q := hm.elim (fun h => ⟨_, Or.inl ⟨h, rfl⟩⟩) (fun h => ⟨_, Or.inr ⟨h, rfl⟩⟩)
    rw [step_quote s q c hq hr, step_quote { s with var := b } q c hq hr]
    -- the two states differ in `var` before; an escaped or a plain character leaves it so, the others set `var`
    split
    · exact ⟨Or.inr ⟨hm, rfl⟩, rfl⟩
    split
    · exact ⟨Or.inl rfl, rfl⟩
    split
    · exact ⟨Or.inl rfl, rfl⟩
    · exact ⟨Or.inr ⟨hm, rfl⟩, rfl⟩

theorem run_qsim (cs : List Char) : ∀ (s t : St), QSim s t →
    QSim (run s cs).1 (run t cs).1 ∧ (run s cs).2 = (run t cs).2 := by
  induction cs with
  | nil => intro s t h; exact ⟨h, rfl⟩
  | cons c cs ih =>
    intro s t h
    obtain ⟨h1, h2⟩ := step_qsim s t c h
    obtain ⟨h3, h4⟩ := ih _ _ h1
    simp only [run_cons]
    exact ⟨h3, by rw [h2, h4]⟩

/-- `eofOk` does not look at `var`, and a state inside a quote is not an acceptable end of file anyway. -/
theorem eofOk_qsim (s t : St) (h : QSim s t) : eofOk s = eofOk t ∧ s.err = t.err := by
  rcases h with h | ⟨_, ht⟩
  · subst h; exact ⟨rfl, rfl⟩
  · rw [ht]; simp [eofOk]

/-! ### reachable states: between tokens no `$` or backslash is pending -/

/-- Between tokens (`space`), after a closing quote (`need`) and in a comment, neither `var` nor `esc` is set. -/
def Between (s : St) : Prop := (s.mode = .space ∨ s.mode = .need ∨ s.mode = .comment) → s.var = false ∧ s.esc = false

theorem between_step (s : St) (c : Char) (h : Between s) : Between (step s c).1 := by
  -- every branch that ends between tokens clears `var` and `esc`, or stays in a state that had them cleared
  unfold Between at *
  fun_cases step s c <;> simp [fresh, fail, endDir, openBlock, *] at h ⊢ <;> simp_all

theorem between_run (cs : List Char) : ∀ s, Between s → Between (run s cs).1 := by
  induction cs with
  | nil => intro s h; exact h
  | cons c cs ih => intro s h; rw [run_cons]; exact ih _ (between_step s c h)

theorem reach_between (pre : List Char) : Between (run init pre).1 :=
  between_run pre init (fun _ => ⟨rfl, rfl⟩)

/-! ### classes of inert values -/

/-- What a string does when it is read inside an unquoted word whose `var` flag is `var`: `none` if it contains a
character that ends the word or starts an escape, `some b` if it is inert and leaves `var = b`.  `{` is inert exactly
after `$` (NGINX's `${name}` syntax). -/
def wordGo (var : Bool) : List Char → Option Bool
  | [] => some var
  | c :: cs =>
    if c == '{' && var then wordGo true cs
    else if c == '\\' then none
    else if c == '$' then wordGo true cs
    else if isWs c || c == ';' || c == '{' then none
    else wordGo false cs

theorem wordGo_cons (b : Bool) (c : Char) (cs : List Char) :
    wordGo b (c :: cs) = (wordGo b [c]).bind (wordGo · cs) := by
  simp only [wordGo, apply_ite (Option.bind · (wordGo · cs)), Option.bind_some, Option.bind_none]

theorem step_wordGo (s : St) (c : Char) (b : Bool) (hm : s.mode = .word) (he : s.esc = false) (hr : s.err = false)
    (h : wordGo s.var [c] = some b) : step s c = ({ s with var := b }, []) := by
  obtain ⟨m, e, v, n, d, r⟩ := s
  cases hm; cases he; cases hr
  -- `wordGo` and `step` put the same tests to `c`, in the same order
  simp only [wordGo] at h
  simp only [step]
  grind

theorem run_wordGo (v : List Char) : ∀ (s : St) (b : Bool), s.mode = .word → s.esc = false → s.err = false →
    wordGo s.var v = some b → run s v = ({ s with var := b }, []) := by
  induction v with
  | nil => intro s b _ _ _ h; cases h; rfl
  | cons c cs ih =>
    intro s b hm he hr h
    rw [wordGo_cons] at h
    obtain ⟨b', h1, h2⟩ := Option.bind_eq_some_iff.mp h
    rw [run_cons, step_wordGo s c b' hm he hr h1, ih { s with var := b' } b hm he hr h2]; rfl

/-- `var` at the start only matters for a leading `{`. -/
theorem wordGo_var (a : Bool) (v : List Char) (hne : v ≠ []) (hv : v.head? ≠ some '{') :
    wordGo a v = wordGo false v := by
  cases v with
  | nil => exact absurd rfl hne
  | cons c cs =>
    have hc : c ≠ '{' := by simpa using hv
    simp [wordGo, beq_false_of_ne hc]

/-- Inert inside an unquoted word and leaving no `$` pending: whatever follows is read as it would be otherwise. -/
def WordSafe (v : List Char) : Prop := v ≠ [] ∧ v.head? ≠ some '{' ∧ wordGo false v = some false

/-- Inert inside an unquoted word; may end in `$`, so what follows must not start with `{`. -/
def WordBody (v : List Char) : Prop := v ≠ [] ∧ v.head? ≠ some '{' ∧ (wordGo false v).isSome = true

/-- May start a token: the first character is none of whitespace `;` `{` `}` `"` `'` `#` backslash. -/
def startChar (c : Char) : Bool :=
  !(isWs c || c == ';' || c == '{' || c == '\\' || c == '"' || c == '\'' || c == '#' || c == '}')

def TokenSafe (v : List Char) : Prop :=
  ∃ c cs, v = c :: cs ∧ startChar c = true ∧ wordGo false v = some false

def TokenBody (v : List Char) : Prop :=
  ∃ c cs, v = c :: cs ∧ startChar c = true ∧ (wordGo false v).isSome = true

theorem wordGo_first (c : Char) (cs : List Char) (hc : startChar c = true) :
    wordGo false (c :: cs) = wordGo (c == '$') cs := by
  simp only [startChar, Bool.not_eq_true', Bool.or_eq_false_iff] at hc
  by_cases hd : c = '$'
  · subst hd; simp [wordGo]
  · simp [wordGo, hc, beq_false_of_ne hd]

/-- Inert inside a token quoted by `q` (`"` or `'`). -/
def QuoteSafe (q : Char) (v : List Char) : Prop := qGo q false v = true

instance (v : List Char) : Decidable (WordSafe v) := by unfold WordSafe; exact inferInstance
instance (v : List Char) : Decidable (WordBody v) := by unfold WordBody; exact inferInstance
instance (q : Char) (v : List Char) : Decidable (QuoteSafe q v) := by unfold QuoteSafe; exact inferInstance

end Nic.NgxLex
