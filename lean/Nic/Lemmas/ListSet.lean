/-!
  Lists used as sets. The Go code uses a map as a set in several places (endpoint addresses, tokenizer states,
  pairs of automaton states); the model writes each of them as the same fold, insertion at the end unless
  present: `Eps.dedupe`, `Tmpl.addState` / `Tmpl.union`, `Regex.addNew` are `insertNew` / `foldl insertNew`
  by unfolding.
-/
namespace Nic
variable {α β : Type}

section
variable [BEq α]

def insertNew (acc : List α) (a : α) : List α := if acc.contains a then acc else acc ++ [a]

theorem prefix_insertNew (acc : List α) (a : α) : acc <+: insertNew acc a := by
  unfold insertNew
  split
  · exact List.prefix_refl acc
  · exact List.prefix_append acc [a]

theorem prefix_foldl_insertNew (l acc : List α) : acc <+: l.foldl insertNew acc :=
  List.foldlRecOn l insertNew (List.prefix_refl acc) fun b h a _ => h.trans (prefix_insertNew b a)

variable [LawfulBEq α]

theorem mem_insertNew {acc : List α} {a b : α} : b ∈ insertNew acc a ↔ b ∈ acc ∨ b = a := by
  unfold insertNew
  split
  · exact ⟨.inl, fun h => h.elim id (· ▸ List.contains_iff_mem.mp ‹_›)⟩
  · rw [List.mem_append, List.mem_singleton]

theorem nodup_insertNew {acc : List α} (a : α) (h : acc.Nodup) : (insertNew acc a).Nodup := by
  unfold insertNew
  split
  · exact h
  · refine List.nodup_append.mpr ⟨h, List.pairwise_singleton _ a, fun x hx y hy e => ?_⟩
    rw [List.mem_singleton.mp hy] at e
    exact ‹¬_› (List.contains_iff_mem.mpr (e ▸ hx))

theorem mem_foldl_insertNew (l acc : List α) (a : α) : a ∈ l.foldl insertNew acc ↔ a ∈ acc ∨ a ∈ l := by
  induction l generalizing acc with
  | nil => rw [List.foldl_nil, List.mem_nil_iff, or_false]
  | cons x r ih => rw [List.foldl_cons, ih, mem_insertNew, List.mem_cons, or_assoc]

theorem nodup_foldl_insertNew (l : List α) {acc : List α} (h : acc.Nodup) : (l.foldl insertNew acc).Nodup :=
  List.foldlRecOn l insertNew h fun _ h a _ => nodup_insertNew a h

end

theorem inj_on_of_nodup_map {f : α → β} {l : List α} (hd : (l.map f).Nodup) {a b : α}
    (ha : a ∈ l) (hb : b ∈ l) (h : f a = f b) : a = b := by
  have hp : l.Pairwise fun a b => f a = f b → a = b := (List.pairwise_map.mp hd).imp fun hne he => absurd he hne
  exact hp.forall_of_forall_of_flip (fun _ _ _ => rfl) (hp.imp fun h e => (h e.symm).symm) ha hb h

end Nic
