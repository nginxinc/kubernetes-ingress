/-
  Rebuilding an unchanged object set emits no change and no problem.
-/
import Nic.Lemmas.Owner
import Nic.Lemmas.StepFacts
namespace Nic.Arb

theorem metaEq_refl (a : Meta) : metaEq a a = true := by simp [metaEq]
theorem metaEqAnn_refl (a : Meta) : metaEqAnn a a = true := by simp [metaEqAnn, metaEq_refl]

theorem listAll2_refl {α} (f : α → α → Bool) (hf : ∀ a, f a a = true) (l : List α) : listAll2 f l l = true := by
  induction l with
  | nil => rfl
  | cons a r ih => simp [listAll2, hf, ih]

theorem isEqual_refl (r : Res) : r.isEqual r = true := by
  cases r with
  | ing c =>
    have h := listAll2_refl (fun (x y : MinionCfg) => metaEqAnn x.md y.md) (fun x => metaEqAnn_refl x.md) c.minions
    simp [Res.isEqual, metaEqAnn_refl, h]
  | vs c => simp [Res.isEqual, metaEq_refl, listAll2_refl _ metaEq_refl]
  | ts c => simp [Res.isEqual, metaEq_refl]

/-! ### sortedness of everything the rebuild stores -/

theorem ostep_sorted (m : HMap) (c : Spec.Claim) (h : Map.Sorted m) : Map.Sorted (ostep m c) := by
  unfold ostep
  split
  · exact Map.set_sorted _ _ _ h
  · split
    · exact Map.set_sorted _ _ _ h
    · exact h

theorem buildHosts_sorted (o : Objs) : Map.Sorted (buildHosts o).hosts := by
  rw [buildHosts_hosts]; exact Map.foldl_sorted _ _ ostep_sorted _ Map.sorted_nil

theorem lwStep_hosts (gc : Option (List Listener)) (b : Build) (kv : String × Res) : (lwStep gc b kv).hosts = b.hosts := by
  unfold lwStep
  split
  · split
    · rfl
    · split
      · exact addWarning_hosts _ _ _
      · rfl
  · rfl

theorem listenerWarnings_hosts (o : Objs) (b : Build) : (listenerWarnings o b).hosts = b.hosts :=
  List.foldlRecOn (motive := fun b' => b'.hosts = b.hosts) _ _ rfl fun b' h kv _ => (lwStep_hosts o.gc b' kv).trans h

theorem resolveHosts_sorted (b : Build) (h : Map.Sorted b.hosts) : Map.Sorted (resolveHosts b) := by
  unfold resolveHosts
  exact Map.filterMap_sorted b.hosts (fun p => b.res.get? p.2.1) h

theorem noActiveHostProblems_sorted (hosts : Map (String × Meta)) (res : Map Res) :
    Map.Sorted (noActiveHostProblems hosts res) := by
  refine Map.foldl_sorted _ _ (fun m kv hm => ?_) _ Map.sorted_nil
  unfold noActiveStep
  split <;> split <;> first | exact hm | exact Map.set_sorted _ _ _ hm

theorem orphanMinionProblems_sorted (o : Objs) (hosts : Map (String × Meta)) (res : Map Res) (m : Map Problem)
    (h : Map.Sorted m) : Map.Sorted (orphanMinionProblems o hosts res m) :=
  Map.foldl_sorted _ _ (fun _ _ hm =>
    iteInduction (fun _ => hm) fun _ => iteInduction (fun _ => hm) fun _ => Map.set_sorted _ _ _ hm) _ h

theorem vsrProblems_sorted (o : Objs) (hosts : Map (String × Meta)) (res : Map Res) (m : Map Problem)
    (h : Map.Sorted m) : Map.Sorted (vsrProblems o hosts res m) := by
  refine Map.foldl_sorted _ _ (fun m kv hm => ?_) _ h
  unfold vsrProbStep
  dsimp only
  split
  · split
    · exact hm
    · exact Map.set_sorted _ _ _ hm
  · exact Map.set_sorted _ _ _ hm

/-! ### diffing a sorted map against itself -/

theorem filter_not_contains_self {α} (m : Map α) : (m.filter fun kv => !(Map.contains m kv.1)) = [] := by
  rw [List.filter_eq_nil_iff]
  intro p hp
  simp [Map.contains_of_mem m p hp]

theorem updatedTimes_self (r : Res) : updatedTimes r r = 0 := by
  unfold updatedTimes
  simp only [isEqual_refl, Bool.not_true, Bool.false_eq_true, if_false]
  cases r <;> simp

theorem detectHostChanges_self (m : Map Res) (hs : Map.Sorted m) : detectHostChanges m m = ([], [], []) := by
  unfold detectHostChanges
  simp only [filter_not_contains_self, List.map_nil]
  rw [List.foldlRecOn (motive := (· = [])) m (updStep m) rfl fun acc h a ha => by
    rw [h, updStep, Map.get?_of_mem m hs a.1 a.2 ha]; simp [updatedTimes_self]]

theorem detectProblemChanges_self (m : Map Problem) (hs : Map.Sorted m) : detectProblemChanges m m = [] := by
  unfold detectProblemChanges
  rw [List.filterMap_eq_nil_iff]
  intro p hp
  obtain ⟨k, pr⟩ := p
  have : m.get? k = some pr := Map.get?_of_mem m hs k pr hp
  simp [this]

theorem changesFor_nil (old new : Map Res) : changesFor [] [] [] old new = [] := rfl

theorem squash_nil : squash [] = [] := rfl

theorem hostsOf_sorted (o : Objs) : Map.Sorted (hostsOf o) :=
  resolveHosts_sorted _ (by rw [listenerWarnings_hosts]; exact buildHosts_sorted _)

theorem hostProblemsOf_sorted (o : Objs) : Map.Sorted (hostProblemsOf o) :=
  vsrProblems_sorted _ _ _ _ (orphanMinionProblems_sorted _ _ _ _ (noActiveHostProblems_sorted _ _))

/-- In a settled state a host rebuild changes nothing and reports nothing: the new tables are the old ones,
and a sorted table diffed against itself gives nothing. -/
theorem rebuildHosts_settled (s : State) (h : Settled s) : rebuildHosts s = (s, [], []) := by
  have hh := hostsOf_sorted s.toObjs
  have hp := hostProblemsOf_sorted s.toObjs
  obtain ⟨h1, h2⟩ := h
  unfold hostsOf at hh; unfold hostProblemsOf at hp h2
  unfold rebuildHosts
  simp only [← h1, ← h2] at hh hp ⊢
  simp only [detectHostChanges_self _ hh, detectProblemChanges_self _ hp, changesFor_nil, squash_nil, List.map_nil]

end Nic.Arb
