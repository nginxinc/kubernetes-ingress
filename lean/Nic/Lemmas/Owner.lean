/-
  The hosts component of `buildHosts` is the holder fold over `Spec.claims`,
  and per host it is the champion of that host's claimants.
  Every build stage changes the holder table only through `Build.claim`, so projecting its fold to that
  component (`List.foldl_hom`) turns it into `foldl ostep` over its claims.
-/
import Nic.Model.Arb
import Nic.Spec.Arb
import Nic.Lemmas.Beats
import Nic.Lemmas.Map
import Nic.Lemmas.ListSet
namespace Nic.Arb
open Spec

abbrev HMap := Map (String × Meta)

abbrev pairOf (c : Claim) : String × Meta := (c.key, c.md)

/-- The hosts component of `Build.claim`. -/
def ostep (m : HMap) (c : Claim) : HMap :=
  match m.get? c.host with
  | none => m.set c.host (pairOf c)
  | some holder => if !(beats holder.2 c.md) then m.set c.host (pairOf c) else m

theorem addWarning_hosts (b : Build) (k w : String) : (b.addWarning k w).hosts = b.hosts := by
  unfold Build.addWarning; split <;> rfl

theorem claim_hosts (b : Build) (host : String) (r : Res) :
    (b.claim host r).hosts = ostep b.hosts ⟨host, r.key, r.md⟩ := by
  unfold Build.claim ostep
  dsimp only
  cases b.hosts.get? host with
  | none => rfl
  | some p =>
    dsimp only
    cases beats p.2 r.md
    · rfl
    · exact addWarning_hosts _ _ _

theorem claimAll_hosts (b : Build) (r : Res) (hs : List String) :
    (claimAll b r hs).hosts = (hs.map fun h => (⟨h, r.key, r.md⟩ : Claim)).foldl ostep b.hosts := by
  rw [List.foldl_map]
  exact (List.foldl_hom Build.hosts fun b h => (claim_hosts b h r).symm).symm

theorem get?_ostep (m : HMap) (c : Claim) (h : String) :
    (ostep m c).get? h = if c.host = h then hstep Prod.snd (m.get? h) (pairOf c) else m.get? h := by
  unfold ostep
  by_cases e : c.host = h
  · subst e
    rw [if_pos rfl]
    cases hg : m.get? c.host with
    | none => exact Map.get?_set_self _ _ _
    | some p =>
      rw [hstep_some]
      dsimp only
      cases beats p.2 c.md
      · exact Map.get?_set_self _ _ _
      · exact hg
  · rw [if_neg e]
    split
    · exact Map.get?_set_ne _ _ _ _ (Ne.symm e)
    · split
      · exact Map.get?_set_ne _ _ _ _ (Ne.symm e)
      · rfl

/-- Looking one host up in the result of the whole fold = folding only that host's claims (the table holds
(key, meta) pairs; `hstep Prod.snd` compares them by their meta). -/
theorem get?_foldl_ostep (cl : List Claim) (m : HMap) (h : String) :
    (cl.foldl ostep m).get? h =
      ((cl.filter (fun c => c.host = h)).map pairOf).foldl (hstep Prod.snd) (m.get? h) := by
  rw [List.foldl_map, List.foldl_filter]
  exact (List.foldl_hom (Map.get? · h) fun m c => by
    rw [get?_ostep]; by_cases e : c.host = h <;> simp [e]).symm

-- `rfl` proves these too, but evaluates the concatenation of the two literals by unfolding, which is slow
theorem res_ing_key (c : IngCfg) : (Res.ing c).key = "Ingress/" ++ c.md.key := by
  simp only [Res.key, Res.kind, Res.md, String.reduceAppend]
theorem res_vs_key (c : VSCfg) : (Res.vs c).key = "VirtualServer/" ++ c.md.key := by
  simp only [Res.key, Res.kind, Res.md, String.reduceAppend]
theorem res_ts_key (c : TSCfg) : (Res.ts c).key = "TransportServer/" ++ c.md.key := by
  simp only [Res.key, Res.kind, Res.md, String.reduceAppend]

theorem ingCfgOf_md (s : Objs) (i : Ing) : (ingCfgOf s i).md = i.md := by
  unfold ingCfgOf; split <;> rfl

theorem converted_eq (s : Objs) (i : Ing) : convertedIng s i = Spec.converted s i := rfl

def ingClaimsOf (s : Objs) (kv : String × Ing) : List Claim :=
  if isMinion kv.2 || Spec.converted s kv.2 then [] else
    kv.2.rules.map fun r => ⟨r.1, "Ingress/" ++ kv.2.md.key, kv.2.md⟩

theorem ingClaims_eq (s : Objs) : Spec.ingClaims s = s.ings.flatMap (ingClaimsOf s) := rfl

theorem ingStep_hosts (s : Objs) (acc : Build × List (String × Meta)) (kv : String × Ing) :
    (ingStep s acc kv).1.hosts = (ingClaimsOf s kv).foldl ostep acc.1.hosts := by
  unfold ingStep ingClaimsOf
  rw [← converted_eq]
  dsimp only
  cases isMinion kv.2
  · cases convertedIng s kv.2
    · simp only [Bool.false_eq_true, if_false, Bool.or_self]
      rw [claimAll_hosts, List.map_map, res_ing_key, Res.md, ingCfgOf_md]; rfl
    · rfl
  · rfl

theorem buildIngs_hosts (s : Objs) : (buildIngs s).1.hosts = (Spec.ingClaims s).foldl ostep [] := by
  rw [ingClaims_eq, List.foldl_flatMap]
  exact (List.foldl_hom (fun a : Build × _ => a.1.hosts) (g₂ := fun m kv => (ingClaimsOf s kv).foldl ostep m)
    fun acc kv => (ingStep_hosts s acc kv).symm).symm

/-- `buildListenersForVSConfiguration` fills in ports and addresses only. -/
theorem assignListeners_md (gc : Option (List Listener)) (c : VSCfg) : (assignListeners gc c).md = c.md := by
  unfold assignListeners
  dsimp only
  repeat' split
  all_goals rfl

theorem vsCfgOf_md (s : Objs) (ch : List (String × Meta)) (v : VS) : (vsCfgOf s ch v).md = v.md :=
  assignListeners_md _ _

theorem buildVss_hosts (s : Objs) (b : Build) (ch : List (String × Meta)) :
    (buildVss s b ch).hosts = (Spec.vsClaims s).foldl ostep b.hosts := by
  rw [Spec.vsClaims, List.foldl_map]
  refine (List.foldl_hom Build.hosts fun b kv => ?_).symm
  rw [vsStep, claim_hosts, res_vs_key, Res.md, vsCfgOf_md]

theorem buildTss_hosts (s : Objs) (b : Build) : (buildTss s b).hosts = (Spec.tsClaims s).foldl ostep b.hosts := by
  unfold buildTss Spec.tsClaims
  cases s.cfg.passthrough
  · rfl
  · show (s.tss.foldl tsStep b).hosts = (s.tss.filterMap _).foldl ostep b.hosts
    rw [List.foldl_filterMap]
    refine (List.foldl_hom Build.hosts fun b kv => ?_).symm
    unfold tsStep
    dsimp only
    cases isPassthroughTS kv.2
    · rfl
    · show _ = (Build.claim _ _ _).hosts
      rw [claim_hosts, res_ts_key]; rfl

theorem markValidHosts_hosts (b : Build) : (markValidHosts b).hosts = b.hosts := rfl

/-- **The owner map computed by `buildHostsAndResources` is the holder fold over all claims**
(Ingress rules in key order, then VirtualServers, then passthrough TransportServers). -/
theorem buildHosts_hosts (s : Objs) : (buildHosts s).hosts = (Spec.claims s).foldl ostep [] := by
  rw [Spec.claims, List.foldl_append, List.foldl_append, ← buildIngs_hosts, ← buildVss_hosts, ← buildTss_hosts]
  rfl

/-- `Spec.champion` (the first claim that beats all claims with another UID) is a champion
in the sense of the fold lemma. -/
theorem champion_spec {l : List Claim} {c : Claim} (h : Spec.champion l = some c) :
    IsChampion Claim.md l c :=
  ⟨List.mem_of_find?_eq_some h, fun x hx hne => by
    simpa [hne] using List.all_eq_true.mp (List.find?_some (p := fun c => l.all _) h) x hx⟩

/-- With distinct UIDs there is at most one champion, and `Spec.champion` finds it. -/
theorem champion_eq_some_iff {l : List Claim} (hd : l.Pairwise (fun a b => a.md.uid ≠ b.md.uid)) {c : Claim} :
    Spec.champion l = some c ↔ IsChampion Claim.md l c := by
  refine ⟨champion_spec, fun hc => ?_⟩
  cases hf : Spec.champion l with
  | none =>
    have := List.find?_eq_none.mp hf c hc.1
    simp only [List.all_eq_true, Bool.or_eq_true, decide_eq_true_eq] at this
    exact absurd (fun y hy => Decidable.or_iff_not_imp_left.mpr (hc.2 y hy)) this
  | some c1 =>
    have h1 := champion_spec hf
    rw [inj_on_of_nodup_map (f := fun c : Claim => c.md.uid) (List.pairwise_map.mpr hd) h1.1 hc.1
      (champion_unique Claim.md h1 hc)]

theorem foldl_eq_champion (L : List Claim) (hd : L.Pairwise (fun a b => a.md.uid ≠ b.md.uid)) :
    ((L.map pairOf).foldl (hstep Prod.snd) none).map (·.1) = (Spec.champion L).map (·.key) := by
  cases L with
  | nil => rfl
  | cons x r =>
    obtain ⟨c', hc, hmem, hmin⟩ := foldl_hstep_unbeaten Prod.snd (pairOf x) (r.map pairOf)
    obtain ⟨c, hcm, rfl⟩ := List.mem_map.mp (List.map_cons ▸ hmem)
    rw [List.map_cons, List.foldl_cons, hstep, hc, (champion_eq_some_iff hd).mpr
      (isChampion_of_unbeaten Claim.md hcm fun y hy => hmin _ (List.map_cons ▸ List.mem_map_of_mem hy))]
    rfl

/-- **Whatever list of claims is folded, in whatever order, the holder of a host is the Spec's champion among the
claims on that host** (host build and listener build are the two instances). -/
theorem foldl_ostep_owner (cl : List Claim) (h : String)
    (hd : (cl.filter (fun c => c.host = h)).Pairwise (fun a b => a.md.uid ≠ b.md.uid)) :
    ((cl.foldl ostep []).get? h).map (·.1) = (Spec.champion (cl.filter (fun c => c.host = h))).map (·.key) := by
  rw [get?_foldl_ostep]; exact foldl_eq_champion _ hd

theorem champion_congr {L L' : List Claim} (hp : ∀ x, x ∈ L ↔ x ∈ L')
    (hd : L.Pairwise (fun a b => a.md.uid ≠ b.md.uid)) (hd' : L'.Pairwise (fun a b => a.md.uid ≠ b.md.uid)) :
    Spec.champion L = Spec.champion L' :=
  Option.ext fun c => by rw [champion_eq_some_iff hd, champion_eq_some_iff hd', isChampion_congr _ hp]

end Nic.Arb
