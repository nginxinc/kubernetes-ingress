/-
  The shape of the public operations: `step` updates one object map, runs one of the rebuilds (`rebuildHosts`,
  `tsBoth`, `gcBoth`) or nothing when an absent key is deleted, then possibly attaches a validation error.
  `step_cases` says that once, with the rebuild's result a variable of the motive. The tables a host rebuild
  stores are functions of the object set; `Settled` says the state holds exactly those, and every operation keeps it.
-/
import Nic.Model.Arb
namespace Nic.Arb

def vsState (s : State) (v : VS) (cls valid : Bool) : State :=
  if cls && valid then { s with vss := s.vss.set v.md.key v } else { s with vss := s.vss.erase v.md.key }

/-- What `Configuration.hosts` must be for an object set. -/
def hostsOf (o : Objs) : Map Res := resolveHosts (listenerWarnings o (buildHosts o))

/-- What `rebuildHosts` stores as the problem table for an object set. -/
def hostProblemsOf (o : Objs) : Map Problem :=
  let b := listenerWarnings o (buildHosts o)
  vsrProblems o b.hosts b.res (orphanMinionProblems o b.hosts b.res (noActiveHostProblems b.hosts b.res))

/-- The derived tables agree with the object set (true after every host rebuild). -/
def Settled (s : State) : Prop :=
  s.hosts = resolveHosts (listenerWarnings s.toObjs (buildHosts s.toObjs)) ∧
  s.hostProblems = hostProblemsOf s.toObjs

theorem rebuildHosts_state (s : State) :
    (rebuildHosts s).1 = { s with hosts := hostsOf s.toObjs, hostProblems := hostProblemsOf s.toObjs } := rfl

theorem gcBoth_fst (s : State) (ord) : (gcBoth s ord).1 = (rebuildHosts (rebuildListenerHosts s ord).1).1 := rfl

theorem gcBoth_changes (s : State) (ord) :
    (gcBoth s ord).2.1 =
      deletesFirst ((rebuildListenerHosts s ord).2.1 ++ (rebuildHosts (rebuildListenerHosts s ord).1).2.1) := rfl

/-- `AddOrUpdateTransportServer` / `DeleteTransportServer` skip the host rebuild while TLS passthrough is off. -/
theorem tsBoth_eq (s : State) (ord) :
    tsBoth s ord = if s.cfg.passthrough then gcBoth s ord else rebuildListenerHosts s ord := rfl

/-- Case analysis on what an operation does.  The three kinds of host-only objects share `hosts`; `err` and
`prob` are the two ways a validation error is added to a result `r` that is otherwise kept. -/
theorem step_cases (perm) (s : State) (op : Op) {P : State × List Change × List Problem → Prop}
    (idle : P (s, [], []))
    (hosts : ∀ i v r, P (rebuildHosts { s with ings := i, vss := v, vsrs := r }))
    (ts : ∀ m, P (tsBoth { s with tss := m } (perm m)))
    (gc : ∀ g, P (gcBoth { s with gc := g } (perm s.tss)))
    (err : ∀ kk r, P r → P (r.1, (attachError kk r.2.1 r.2.2).1, (attachError kk r.2.1 r.2.2).2))
    (prob : ∀ p r, P r → P (r.1, r.2.1, r.2.2 ++ [p])) :
    P (step perm s op) := by
  -- the `if` around the whole result is taken apart by `iteInduction`: `split` is slow on a goal of that size
  cases op with
  | ing i cls valid =>
    have h : P (rebuildHosts (if cls && valid then { s with ings := s.ings.set i.md.key i }
        else { s with ings := s.ings.erase i.md.key })) := by split <;> exact hosts _ _ _
    exact iteInduction (fun _ => err _ _ h) fun _ => h
  | vs v cls valid =>
    have h : P (rebuildHosts (if cls && valid then { s with vss := s.vss.set v.md.key v }
        else { s with vss := s.vss.erase v.md.key })) := by split <;> exact hosts _ _ _
    exact iteInduction (fun _ => err _ _ h) fun _ => h
  | vsr x cls valid =>
    have h : P (rebuildHosts (if cls && valid then { s with vsrs := s.vsrs.set x.md.key x }
        else { s with vsrs := s.vsrs.erase x.md.key })) := by split <;> exact hosts _ _ _
    exact iteInduction (fun _ => prob _ _ h) fun _ => h
  | ts t cls valid => exact iteInduction (fun _ => err _ _ (ts _)) fun _ => ts _
  | gc ls => exact gc _
  | delIng k => exact iteInduction (fun _ => hosts _ _ _) fun _ => idle
  | delVs k => exact iteInduction (fun _ => hosts _ _ _) fun _ => idle
  | delVsr k => exact iteInduction (fun _ => hosts _ _ _) fun _ => idle
  | delTs k => exact iteInduction (fun _ => ts _) fun _ => idle
  | delGc => exact gc _

theorem step_cfg (perm) (s : State) (op : Op) : (step perm s op).1.cfg = s.cfg := by
  refine step_cases perm s op (P := fun r => r.1.cfg = s.cfg) rfl (fun _ _ _ => rfl) (fun m => ?_) (fun _ => rfl)
    (fun _ _ h => h) (fun _ _ h => h)
  rw [tsBoth_eq]; split <;> rfl

/-- A foreign-class event erases the key and rebuilds, whatever the validator says. -/
theorem step_ing_foreign (perm) (s : State) (i : Ing) (valid : Bool) :
    step perm s (.ing i false valid) = rebuildHosts { s with ings := s.ings.erase i.md.key } := by simp [step]
theorem step_vs_foreign (perm) (s : State) (v : VS) (valid : Bool) :
    step perm s (.vs v false valid) = rebuildHosts { s with vss := s.vss.erase v.md.key } := by simp [step]
theorem step_vsr_foreign (perm) (s : State) (x : VSR) (valid : Bool) :
    step perm s (.vsr x false valid) = rebuildHosts { s with vsrs := s.vsrs.erase x.md.key } := by simp [step]

theorem rebuildHosts_settles (s : State) : Settled (rebuildHosts s).1 := rebuildHosts_state s ▸ ⟨rfl, rfl⟩

/-- TransportServers do not influence the host tables while TLS passthrough is disabled. -/
theorem settled_tss_irrelevant (s : State) (m : Map TS) (hp : s.cfg.passthrough = false) (h : Settled s) :
    Settled { s with tss := m } := by
  have hb : buildHosts { s.toObjs with tss := m } = buildHosts s.toObjs := by
    unfold buildHosts buildTss; simp only [hp, Bool.not_false, if_true]; rfl
  unfold Settled hostProblemsOf at h ⊢
  rw [show ({ s with tss := m } : State).toObjs = { s.toObjs with tss := m } from rfl, hb]
  exact h

/-- `Settled` speaks of the host tables only; a listener rebuild touches `lhosts` and `listenerProblems`. -/
theorem rebuildListenerHosts_settles (s : State) (ord) (h : Settled s) : Settled (rebuildListenerHosts s ord).1 := h

theorem gcBoth_settles (s : State) (ord) : Settled (gcBoth s ord).1 := by
  rw [gcBoth_fst]; exact rebuildHosts_settles _

/-- Every operation keeps the derived tables settled — also a TransportServer operation that skips the host
rebuild, because then (TLS passthrough off) the host tables do not depend on the TransportServers. -/
theorem step_settles (perm) (s : State) (op : Op) (h : Settled s) : Settled (step perm s op).1 := by
  refine step_cases perm s op (P := fun r => Settled r.1) h (fun _ _ _ => rebuildHosts_settles _) (fun m => ?_)
    (fun _ => gcBoth_settles _ _) (fun _ _ h => h) (fun _ _ h => h)
  rw [tsBoth_eq]; split
  · exact gcBoth_settles _ _
  · exact rebuildListenerHosts_settles _ _ (settled_tss_irrelevant s m ((Bool.not_eq_true _).mp ‹_›) h)

theorem run_settles (perm) (s : State) (ops : List Op) (h : Settled s) : Settled (run perm s ops) :=
  List.foldlRecOn ops _ h fun s hs op _ => step_settles perm s op hs

theorem settled_init (cfg : Cfg) : Settled { toObjs := { cfg := cfg } } := by
  -- `buildTss` branches on the passthrough flag: `rfl` needs it as a literal
  obtain ⟨passthrough, _⟩ := cfg
  cases passthrough <;> exact ⟨rfl, rfl⟩

end Nic.Arb
