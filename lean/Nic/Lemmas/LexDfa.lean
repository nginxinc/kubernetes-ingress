import Nic.Lemmas.NgxLex
import Nic.Lemmas.Regex
/-!
  The lexical safety classes of C06 as small automata, so that `Dfa.check` can decide "every string this
  validator regex accepts is safe at its interpolation site", and the bridge from automaton acceptance to the
  classes the tokenizer theorems are stated for.

  An automaton reads characters by class, the recognisers `qGo` / `wordGo` by comparing characters. The two are tied
  one character at a time: at the automaton's special characters by evaluation (`forall_char`), at every other
  character by the recogniser's default branch; whole strings follow by one induction per automaton.
-/
namespace Nic.LexDfa
open Nic.Regex Nic.NgxLex

theorem ceq (c d : Char) : (c == d) = (c.toNat == d.toNat) := by
  rw [Bool.eq_iff_iff]; simp [Char.toNat_inj]

/-- A statement about every character: evaluate it at the listed code points, argue for the rest. -/
theorem forall_char (l : List Nat) {P : Char → Prop} (hs : ∀ n ∈ l, P (Char.ofNat n))
    (ho : ∀ c, c.toNat ∉ l → P c) : ∀ c, P c := by
  intro c
  by_cases h : c.toNat ∈ l
  · simpa using hs _ h
  · exact ho c h

theorem run_dead (d : Dfa) (p : Nat) (h : ∀ k, d.δ p k = p) (s : List Char) : d.run p s = p := by
  induction s with
  | nil => rfl
  | cons c cs ih => rw [Dfa.run, h, ih]

/-! ### inside a quoted token: states 0 = plain, 1 = after a backslash, 2 = an unescaped quote was seen -/

def quoteDfa (q : Nat) : Dfa where
  specials := [92, q]
  states := 3
  δ := fun p k =>
    if p == 0 then (if k == 0 then 1 else if k == 1 then 2 else 0)
    else if p == 1 then 0
    else 2

def dqDfa : Dfa := quoteDfa 34
def sqDfa : Dfa := quoteDfa 39

theorem quote_δ (q c : Char) :
    (quoteDfa q.toNat).δ 0 ((quoteDfa q.toNat).classOf c) = if c == '\\' then 1 else if c == q then 2 else 0 := by
  simp only [ceq, Dfa.classOf, quoteDfa, List.idxOf_cons, List.idxOf_nil, show '\\'.toNat = 92 from rfl,
    BEq.comm (a := c.toNat)]
  cases (92 == c.toNat) <;> cases (q.toNat == c.toNat) <;> rfl

theorem quote_run (q : Char) (s : List Char) : ∀ esc : Bool,
    ((quoteDfa q.toNat).run (if esc then 1 else 0) s == 0) = qGo q esc s := by
  induction s with
  | nil => intro esc; cases esc <;> rfl
  | cons c cs ih =>
    intro esc
    cases esc
    · simp only [Bool.false_eq_true, if_false, Dfa.run, qGo, quote_δ q c]
      split
      · exact ih true
      · split
        · rw [run_dead _ 2 (fun _ => rfl)]; rfl
        · exact ih false
    · exact ih false

theorem dq_accept (s : List Char) (h : (dqDfa.run 0 s == 0) = true) : qGo '"' false s = true :=
  (quote_run '"' s false).symm.trans h

theorem sq_accept (s : List Char) (h : (sqDfa.run 0 s == 0) = true) : qGo '\'' false s = true :=
  (quote_run '\'' s false).symm.trans h

/-! ### inside an unquoted word / at the start of a token
states 0 = nothing read yet, 1 = inside, no `$` pending, 2 = inside, `$` pending (a following `{` is literal),
3 = a structural character was read. -/

/-- classes: 0..3 whitespace, 4 `;`, 5 `{`, 6 backslash, 7 `$`, (token automaton: 8 `"`, 9 `'`, 10 `#`, 11 `}`), last = other -/
def wordDelta (p k : Nat) : Nat :=
  if p = 3 then 3 else if k = 5 then (if p = 2 then 2 else 3) else if k = 7 then 2 else if k < 7 then 3 else 1

def wordDfa : Dfa where
  specials := [32, 9, 13, 10, 59, 123, 92, 36]
  states := 4
  δ := wordDelta

def tokenDfa : Dfa where
  specials := [32, 9, 13, 10, 59, 123, 92, 36, 34, 39, 35, 125]
  states := 4
  δ := fun p k => if p = 0 ∧ 8 ≤ k ∧ k < 12 then 3 else wordDelta p k

/-- `wordGo`'s answer as an automaton state. -/
def enc : Option Bool → Nat
  | none => 3
  | some false => 1
  | some true => 2

theorem enc_eq_one {o : Option Bool} : enc o = 1 ↔ o = some false := by
  rcases o with _ | _ | _ <;> decide

theorem enc_alive {o : Option Bool} : enc o = 1 ∨ enc o = 2 ↔ o.isSome = true := by
  rcases o with _ | _ | _ <;> decide

theorem wordGo_other (b : Bool) (c : Char) (h : c.toNat ∉ wordDfa.specials) : wordGo b [c] = some false := by
  simp only [wordDfa, List.mem_cons, List.not_mem_nil, or_false, not_or, ← beq_eq_false_iff_ne] at h
  simp only [wordGo, isWs, ceq, Char.reduceToNat, h]
  rfl

theorem word_δ (b : Bool) : ∀ c, wordDfa.δ (enc (some b)) (wordDfa.classOf c) = enc (wordGo b [c]) := by
  refine forall_char wordDfa.specials ?_ ?_
  · cases b <;> decide
  · intro c hc
    rw [classOf_other _ _ hc, wordGo_other b c hc]; cases b <;> rfl

theorem word_run_go (v : List Char) : ∀ o : Option Bool, wordDfa.run (enc o) v = enc (o.bind (wordGo · v)) := by
  induction v with
  | nil => intro o; cases o <;> rfl
  | cons c cs ih =>
    intro o
    cases o with
    | none => exact run_dead _ 3 (fun _ => rfl) _
    | some b => rw [Dfa.run, word_δ, ih, Option.bind_some, wordGo_cons b c cs]

/-- from the start state the word automaton behaves as from state 1 (a leading `{` is structural either way) -/
theorem word_run_start (c : Char) (cs : List Char) : wordDfa.run 0 (c :: cs) = enc (wordGo false (c :: cs)) := by
  have : wordDfa.δ 0 (wordDfa.classOf c) = wordDfa.δ 1 (wordDfa.classOf c) := by simp [wordDfa, wordDelta]
  rw [Dfa.run, this]; exact word_run_go (c :: cs) (some false)

theorem word_accept_body (v : List Char) (h : wordDfa.run 0 v = 1 ∨ wordDfa.run 0 v = 2) : WordBody v := by
  cases v with
  | nil => simp [Dfa.run] at h
  | cons c cs =>
    rw [word_run_start, enc_alive] at h
    refine ⟨by simp, ?_, h⟩
    intro hh
    simp only [List.head?_cons, Option.some.injEq] at hh
    subst hh
    simp [wordGo] at h

theorem word_accept (v : List Char) (h : (wordDfa.run 0 v == 1) = true) : WordSafe v := by
  have h : wordDfa.run 0 v = 1 := by simpa using h
  obtain ⟨hne, hhd, _⟩ := word_accept_body v (Or.inl h)
  refine ⟨hne, hhd, ?_⟩
  cases v with
  | nil => exact absurd rfl hne
  | cons c cs => rwa [word_run_start, enc_eq_one] at h

theorem wordDelta_other (p k : Nat) (hk : 8 ≤ k) : wordDelta p k = wordDelta p 8 := by
  simp [wordDelta, show k ≠ 5 by omega, show k ≠ 7 by omega, show ¬ k < 7 by omega]

/-- After the first character the token automaton is the word automaton: its special characters extend the word
automaton's, and inside a word every class from 8 on is read alike. -/
theorem token_δ (p : Nat) (hp : p ≠ 0) (c : Char) :
    tokenDfa.δ p (tokenDfa.classOf c) = wordDfa.δ p (wordDfa.classOf c) := by
  have hs : tokenDfa.specials = wordDfa.specials ++ [34, 39, 35, 125] := rfl
  show (if p = 0 ∧ _ then 3 else wordDelta p _) = wordDelta p _
  rw [if_neg (fun h => hp h.1), Dfa.classOf, Dfa.classOf, hs, List.idxOf_append]
  split
  · rfl
  · rename_i h
    rw [List.idxOf_eq_length h]
    exact wordDelta_other p _ (Nat.le_add_left 8 _)

theorem enc_ne_zero (o : Option Bool) : enc o ≠ 0 := by
  rcases o with _ | _ | _ <;> decide

theorem token_run_inside (s : List Char) : ∀ o, tokenDfa.run (enc o) s = wordDfa.run (enc o) s := by
  induction s with
  | nil => intro _; rfl
  | cons c cs ih =>
    intro o
    rw [Dfa.run, Dfa.run, token_δ _ (enc_ne_zero o)]
    cases o with
    | none => exact ih none
    | some b => rw [word_δ]; exact ih _

theorem token_first : ∀ c, tokenDfa.δ 0 (tokenDfa.classOf c) = if startChar c = true then enc (some (c == '$')) else 3 := by
  refine forall_char tokenDfa.specials ?_ ?_
  · decide
  · intro c hc
    rw [classOf_other _ _ hc]
    simp only [tokenDfa, List.mem_cons, List.not_mem_nil, or_false, not_or, ← beq_eq_false_iff_ne] at hc
    simp only [startChar, isWs, ceq, Char.reduceToNat, hc]
    rfl

theorem token_run (c : Char) (cs : List Char) :
    tokenDfa.run 0 (c :: cs) = if startChar c = true then enc (wordGo false (c :: cs)) else 3 := by
  rw [Dfa.run, token_first]
  split
  · rename_i hs
    rw [token_run_inside, word_run_go, Option.bind_some, wordGo_first c cs hs]
  · exact token_run_inside cs none ▸ run_dead _ 3 (fun _ => rfl) _

theorem token_accept_body (v : List Char) (h : tokenDfa.run 0 v = 1 ∨ tokenDfa.run 0 v = 2) : TokenBody v := by
  cases v with
  | nil => simp [Dfa.run] at h
  | cons c cs =>
    rw [token_run] at h
    split at h
    · exact ⟨c, cs, rfl, ‹_›, enc_alive.mp h⟩
    · omega

theorem token_accept (v : List Char) (h : (tokenDfa.run 0 v == 1) = true) : TokenSafe v := by
  have h : tokenDfa.run 0 v = 1 := by simpa using h
  obtain ⟨c, cs, rfl, hc, _⟩ := token_accept_body v (Or.inl h)
  rw [token_run, if_pos hc] at h
  exact ⟨c, cs, rfl, hc, enc_eq_one.mp h⟩

end Nic.LexDfa
