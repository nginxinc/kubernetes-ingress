import Nic.Model.Regex
import Nic.Lemmas.ListSet
/-!
  Soundness of the abstract interpreter `Dfa.rel` / `Dfa.check`: if the check succeeds then every string of the
  regular expression's language drives the automaton from the start state into a good state.
-/
namespace Nic.Regex

theorem Dfa.run_append (d : Dfa) (p : Nat) (s t : List Char) : d.run p (s ++ t) = d.run (d.run p s) t := by
  induction s generalizing p with
  | nil => rfl
  | cons c cs ih => simp [Dfa.run, ih]

theorem Dfa.classOf_lt (d : Dfa) (c : Char) : d.classOf c < d.specials.length + 1 :=
  Nat.lt_succ_of_le List.idxOf_le_length

theorem Dfa.step_lt (d : Dfa) (h : d.wf = true) (p k : Nat) (hp : p < d.states) (hk : k < d.specials.length + 1) :
    d.δ p k < d.states := by
  simp only [Dfa.wf, List.all_eq_true, List.mem_range, decide_eq_true_eq] at h
  exact h p hp k hk

theorem Dfa.run_lt (d : Dfa) (h : d.wf = true) (s : List Char) : ∀ p, p < d.states → d.run p s < d.states := by
  induction s with
  | nil => intro p hp; exact hp
  | cons c cs ih => intro p hp; exact ih _ (d.step_lt h p _ hp (d.classOf_lt c))

theorem mem_addNew {X Y : Rel} {e : Nat × Nat} : e ∈ addNew X Y ↔ e ∈ X ∨ e ∈ Y :=
  mem_foldl_insertNew Y X e

theorem mem_comp {X Y : Rel} {p q r : Nat} (h1 : (p, q) ∈ X) (h2 : (q, r) ∈ Y) : (p, r) ∈ comp X Y := by
  unfold comp
  rw [mem_addNew, List.mem_flatMap]
  exact .inr ⟨(p, q), h1, List.mem_map.mpr ⟨(q, r), List.mem_filter.mpr ⟨h2, beq_self_eq_true q⟩, rfl⟩⟩

theorem subRel_mem {X Y : Rel} (h : subRel X Y = true) {e : Nat × Nat} (he : e ∈ X) : e ∈ Y := by
  unfold subRel at h
  rw [List.all_eq_true] at h
  simpa using h e he

theorem starRel_spec {R : Rel} {fuel : Nat} {X Z : Rel} (h : starRel R fuel X = some Z) :
    (∀ e ∈ X, e ∈ Z) ∧ subRel (comp R Z) Z = true := by
  induction fuel generalizing X with
  | zero =>
    unfold starRel at h
    split at h
    · cases h; exact ⟨fun _ he => he, ‹_›⟩
    · cases h
  | succ n ih =>
    unfold starRel at h
    split at h
    · cases h; exact ⟨fun _ he => he, ‹_›⟩
    · exact ⟨fun e he => (ih h).1 e (mem_addNew.mpr (.inl he)), (ih h).2⟩

theorem mem_idRel (d : Dfa) {p : Nat} (hp : p < d.states) : (p, p) ∈ d.idRel :=
  List.mem_map.mpr ⟨p, List.mem_range.mpr hp, rfl⟩

theorem mem_clsRel (d : Dfa) {ks : List Nat} {p k : Nat} (hp : p < d.states) (hk : k ∈ ks) : (p, d.δ p k) ∈ d.clsRel ks :=
  List.mem_flatMap.mpr ⟨p, List.mem_range.mpr hp, List.mem_map.mpr ⟨k, hk, rfl⟩⟩

theorem classOf_other (d : Dfa) (c : Char) (h : c.toNat ∉ d.specials) : d.classOf c = d.specials.length :=
  List.idxOf_eq_length h

theorem Dfa.hit_sound (d : Dfa) (rs : Ranges) (c : Char) (h : inRanges rs c.toNat = true) : d.classOf c ∈ d.hit rs := by
  -- a special character is hit as its own class; any other character hits the class "other", unless the ranges are all
  -- singletons of special characters (such a range cannot contain it)
  unfold Dfa.hit
  rw [List.mem_append]
  by_cases hm : c.toNat ∈ d.specials
  · left
    have hlt : d.classOf c < d.specials.length := List.idxOf_lt_length_of_mem hm
    have : d.specials.getD (d.classOf c) 0 = c.toNat := by
      rw [List.getD_eq_getElem?_getD, List.getElem?_eq_getElem hlt]
      exact List.getElem_idxOf hlt
    rw [List.mem_filter, this]
    exact ⟨List.mem_range.mpr hlt, h⟩
  · right
    obtain ⟨r, hr, hin⟩ := List.any_eq_true.mp h
    have hany : rs.any (fun r => !(r.1 == r.2 && d.specials.contains r.1)) = true := by
      refine List.any_eq_true.mpr ⟨r, hr, ?_⟩
      simp only [Bool.and_eq_true, decide_eq_true_eq] at hin
      by_cases he : r.1 = r.2
      · have : r.1 = c.toNat := by omega
        simp [this, hm]
      · simp [he]
    rw [hany, classOf_other d c hm]
    simp

theorem Dfa.rel_cat_eq_some {d : Dfa} {a b : Re} {Z : Rel} (h : d.rel (.cat a b) = some Z) :
    ∃ X Y, d.rel a = some X ∧ d.rel b = some Y ∧ Z = comp X Y := by
  unfold Dfa.rel at h
  split at h
  · cases h; exact ⟨_, _, ‹_›, ‹_›, rfl⟩
  · cases h

theorem Dfa.rel_alt_eq_some {d : Dfa} {a b : Re} {Z : Rel} (h : d.rel (.alt a b) = some Z) :
    ∃ X Y, d.rel a = some X ∧ d.rel b = some Y ∧ Z = addNew X Y := by
  unfold Dfa.rel at h
  split at h
  · cases h; exact ⟨_, _, ‹_›, ‹_›, rfl⟩
  · cases h

theorem Dfa.rel_star_eq_some {d : Dfa} {a : Re} {Z : Rel} (h : d.rel (.star a) = some Z) :
    ∃ R, d.rel a = some R ∧ starRel R (d.states * d.states + 1) d.idRel = some Z := by
  unfold Dfa.rel at h
  split at h
  · exact ⟨_, ‹_›, h⟩
  · cases h

theorem Dfa.rel_sound (d : Dfa) (hwf : d.wf = true) {r : Re} {s : List Char} (hm : Matches r s)
    {Z : Rel} (hZ : d.rel r = some Z) {p : Nat} (hp : p < d.states) : (p, d.run p s) ∈ Z := by
  induction hm generalizing Z p with
  | eps =>
    cases hZ
    exact mem_idRel d hp
  | @cls rs c hin =>
    cases hZ
    exact mem_clsRel d hp (d.hit_sound rs c hin)
  | @cat a b s t _ _ iha ihb =>
    obtain ⟨X, Y, hX, hY, rfl⟩ := rel_cat_eq_some hZ
    rw [d.run_append]
    exact mem_comp (iha hX hp) (ihb hY (d.run_lt hwf s p hp))
  | altL _ ih =>
    obtain ⟨X, Y, hX, -, rfl⟩ := rel_alt_eq_some hZ
    exact mem_addNew.mpr (.inl (ih hX hp))
  | altR _ ih =>
    obtain ⟨X, Y, -, hY, rfl⟩ := rel_alt_eq_some hZ
    exact mem_addNew.mpr (.inr (ih hY hp))
  | starNil =>
    obtain ⟨R, -, hS⟩ := rel_star_eq_some hZ
    exact (starRel_spec hS).1 _ (mem_idRel d hp)
  | @starCons a s t _ _ iha ihs =>
    obtain ⟨R, hR, hS⟩ := rel_star_eq_some hZ
    rw [d.run_append]
    exact subRel_mem (starRel_spec hS).2 (mem_comp (iha hR hp) (ihs hZ (d.run_lt hwf s p hp)))

/-- The decision procedure is sound: a successful check is a statement about **every** string of the language. -/
theorem Dfa.check_sound (d : Dfa) (start : Nat) (good : Nat → Bool) (r : Re) (h : d.check start good r = true)
    (s : List Char) (hm : Matches r s) : good (d.run start s) = true := by
  unfold Dfa.check at h
  simp only [Bool.and_eq_true, decide_eq_true_eq] at h
  obtain ⟨⟨hwf, hst⟩, h⟩ := h
  split at h
  · rename_i X hX
    have := d.rel_sound hwf hm hX hst
    rw [List.all_eq_true] at h
    simpa using h _ this
  · cases h

end Nic.Regex
