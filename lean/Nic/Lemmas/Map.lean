/-
  The association-list maps of the arbitration model (`Nic.Arb.Map`, a stand-in for Go maps, kept in key
  order). First: what `get?` sees after `set`, `erase`, a map over the values, a fold of erasures; membership
  against lookup; none of it needs sorted keys. Then: maps built with `set` / `erase` from the empty map have
  strictly increasing keys (`Sorted`), and on such maps lookup and membership agree.
-/
import Nic.Model.Arb
namespace Nic.Arb.Map
variable {α β : Type}

@[simp] theorem get?_nil (k : String) : get? ([] : Map α) k = none := rfl

theorem get?_cons (a : String × α) (r : Map α) (k : String) :
    get? (a :: r) k = if a.1 = k then some a.2 else get? r k := rfl

theorem contains_eq (m : Map α) (k : String) : m.contains k = (m.get? k).isSome := rfl

theorem get?_set_self (m : Map α) (k : String) (v : α) : (m.set k v).get? k = some v := by
  -- the branches of `set`: empty map; `k` before the head; at the head; behind it
  fun_induction set m k v with
  | case1 => exact if_pos rfl
  | case2 => exact if_pos rfl
  | case3 => exact if_pos rfl
  | case4 k' v' r h1 h2 ih => rw [get?_cons, if_neg (Ne.symm h2), ih]

theorem get?_set_ne (m : Map α) (k k2 : String) (v : α) (hne : k2 ≠ k) : (m.set k v).get? k2 = m.get? k2 := by
  fun_induction set m k v with
  | case1 => exact if_neg hne.symm
  | case2 => exact if_neg hne.symm
  | case3 => exact (if_neg hne.symm).trans (if_neg hne.symm).symm
  | case4 k' v' r h1 h2 ih => rw [get?_cons, get?_cons, ih]

theorem get?_set (m : Map α) (k k2 : String) (v : α) :
    (m.set k v).get? k2 = if k2 = k then some v else m.get? k2 := by
  by_cases h : k2 = k
  · rw [if_pos h, h, get?_set_self]
  · rw [if_neg h, get?_set_ne m k k2 v h]

theorem forall_get?_set {P : α → Prop} {m : Map α} (h : ∀ k c, m.get? k = some c → P c) (k : String) {v : α}
    (hv : P v) : ∀ k' c, (m.set k v).get? k' = some c → P c := by
  intro k' c hc
  by_cases e : k' = k
  · rw [e, get?_set_self] at hc; cases hc; exact hv
  · rw [get?_set_ne m k k' v e] at hc; exact h k' c hc

theorem mem_of_get? (m : Map α) (k : String) (v : α) (h : m.get? k = some v) : (k, v) ∈ m := by
  fun_induction get? m k with
  | case1 => cases h
  | case2 => cases h; exact List.mem_cons_self
  | case3 k' v' r hk ih => exact List.mem_cons_of_mem _ (ih h)

theorem get?_erase_self (m : Map α) (k : String) : (m.erase k).get? k = none := by
  cases h : (m.erase k).get? k with
  | none => rfl
  | some v => exact absurd rfl (of_decide_eq_true (List.mem_filter.mp (mem_of_get? _ _ _ h)).2)

theorem get?_erase_ne (m : Map α) (k k2 : String) (hne : k2 ≠ k) : (m.erase k).get? k2 = m.get? k2 := by
  fun_induction get? m k2 with
  | case1 => rfl
  | case2 => rw [erase, List.filter_cons, if_pos (decide_eq_true hne)]; exact if_pos rfl
  | case3 k' v r hk ih =>
    rw [erase, List.filter_cons]
    split
    · rw [get?_cons, if_neg hk]; exact ih
    · exact ih

theorem get?_erase (m : Map α) (k k2 : String) :
    (m.erase k).get? k2 = if k2 = k then none else m.get? k2 := by
  by_cases h : k2 = k
  · rw [if_pos h, h, get?_erase_self]
  · rw [if_neg h, get?_erase_ne m k k2 h]

theorem contains_erase (m : Map α) (k : String) : (m.erase k).contains k = false := by
  rw [contains_eq, get?_erase_self]; rfl

theorem get?_foldl_erase {κ : Type} (g : κ → String) (ks : List κ) (m : Map α) (k : String) :
    (ks.foldl (fun m x => m.erase (g x)) m).get? k = if k ∈ ks.map g then none else m.get? k := by
  induction ks generalizing m with
  | nil => rfl
  | cons x r ih =>
    rw [List.foldl_cons, ih, get?_erase]
    by_cases h1 : k = g x
    · simp only [h1, List.map_cons, List.mem_cons, true_or, if_true, ite_self]
    · simp only [h1, List.map_cons, List.mem_cons, false_or, if_false]

theorem get?_map_entry (m : Map α) {g : String × α → String × β} {f : String → α → β}
    (h : ∀ k v, g (k, v) = (k, f k v)) (k : String) :
    get? (m.map g) k = (m.get? k).map (f k) := by
  fun_induction get? m k with
  | case1 => rfl
  | case2 => rw [List.map_cons, h]; exact if_pos rfl
  | case3 k' v r hk ih => rw [List.map_cons, h, get?_cons, if_neg hk, ih]

theorem mem_keys_filter {α} (m : Map α) (P : String × α → Bool) (k : String) :
    k ∈ (m.filter P).map (·.1) ↔ ∃ v, (k, v) ∈ m ∧ P (k, v) = true := by
  simp only [List.mem_map, List.mem_filter, Prod.exists, exists_and_right, exists_eq_right]

theorem contains_of_mem (m : Map α) (p : String × α) (h : p ∈ m) : m.contains p.1 = true := by
  rw [contains_eq]
  fun_induction get? m p.1 with
  | case1 => cases h
  | case2 => rfl
  | case3 k' v' r hk ih => exact ih ((List.mem_cons.mp h).resolve_left fun x => hk (x ▸ rfl))

theorem erase_of_not_contains (m : Map α) (k : String) (h : m.contains k = false) : m.erase k = m := by
  rw [erase, List.filter_eq_self]
  intro p hp
  exact decide_eq_true fun e => Bool.false_ne_true (h.symm.trans (e ▸ contains_of_mem m p hp))

/-! ### sorted maps -/

def Sorted {α} (m : Map α) : Prop := m.Pairwise (fun a b => a.1 < b.1)

theorem sorted_nil : Sorted ([] : Map α) := List.Pairwise.nil

theorem mem_set (m : Map α) (k : String) (v : α) (p : String × α) (h : p ∈ m.set k v) :
    p = (k, v) ∨ p ∈ m := by
  fun_induction set m k v with
  | case1 => exact Or.inl (List.mem_singleton.mp h)
  | case2 => exact List.mem_cons.mp h
  | case3 => exact (List.mem_cons.mp h).imp_right (List.mem_cons_of_mem _)
  | case4 k' v' r h1 h2 ih =>
    rcases List.mem_cons.mp h with h | h
    · exact Or.inr (h ▸ List.mem_cons_self)
    · exact (ih h).imp_right (List.mem_cons_of_mem _)

theorem set_sorted (m : Map α) (k : String) (v : α) (hs : Sorted m) : Sorted (m.set k v) := by
  fun_induction set m k v with
  | case1 => exact List.pairwise_singleton _ _
  | case2 k' v' r h1 =>
    have ⟨ha, _⟩ := List.pairwise_cons.mp hs
    exact List.pairwise_cons.mpr ⟨fun p hp => (List.mem_cons.mp hp).elim (· ▸ h1) fun hp => String.lt_trans h1 (ha p hp), hs⟩
  | case3 => exact List.pairwise_cons.mpr (List.pairwise_cons.mp hs)
  | case4 k' v' r h1 h2 ih =>
    have ⟨ha, hr⟩ := List.pairwise_cons.mp hs
    refine List.pairwise_cons.mpr ⟨fun p hp => ?_, ih hr⟩
    rcases mem_set r k v p hp with rfl | hp
    · -- `¬ k < k'` and `k ≠ k'` leave `k' < k`
      exact Decidable.byContradiction fun h =>
        h2 (String.le_antisymm (String.not_lt.mp h) (String.not_lt.mp h1))
    · exact ha p hp

theorem erase_sorted (m : Map α) (k : String) (hs : Sorted m) : Sorted (m.erase k) :=
  List.Pairwise.filter _ hs

/-- Distinct keys are all that lookup needs to find every member. -/
theorem get?_of_mem_of_nodup (m : Map α) (hn : (m.map (·.1)).Nodup) (k : String) (v : α) (h : (k, v) ∈ m) :
    m.get? k = some v := by
  induction m with
  | nil => cases h
  | cons a r ih =>
    have ⟨ha, hr⟩ := List.nodup_cons.mp hn
    rw [get?_cons]
    rcases List.mem_cons.mp h with h | h
    · rw [← h]; exact if_pos rfl
    · rw [if_neg fun e => ha (List.mem_map.mpr ⟨_, h, e.symm⟩), ih hr h]

theorem Sorted.nodup_keys {m : Map α} (hs : Sorted m) : (m.map (·.1)).Nodup :=
  List.pairwise_map.mpr (hs.imp String.ne_of_lt)

theorem get?_of_mem (m : Map α) (hs : Sorted m) (k : String) (v : α) (h : (k, v) ∈ m) : m.get? k = some v :=
  get?_of_mem_of_nodup m hs.nodup_keys k v h

theorem map_sorted {α β} (m : Map α) (f : String × α → β) (hs : Sorted m) :
    Sorted (m.map fun p => (p.1, f p)) :=
  List.pairwise_map.mpr hs

theorem filterMap_sorted (m : Map α) (f : String × α → Option β) (hs : Sorted m) :
    Sorted (m.filterMap fun p => (f p).map fun b => (p.1, b)) := by
  refine List.Pairwise.filterMap _ (fun a a' h b hb b' hb' => ?_) hs
  obtain ⟨_, _, rfl⟩ := Option.map_eq_some_iff.mp hb
  obtain ⟨_, _, rfl⟩ := Option.map_eq_some_iff.mp hb'
  exact h

theorem foldl_sorted {γ : Type} (l : List γ) (f : Map α → γ → Map α)
    (hf : ∀ m x, Sorted m → Sorted (f m x)) (m : Map α) (h : Sorted m) : Sorted (l.foldl f m) :=
  List.foldlRecOn l f h fun m hm x _ => hf m x hm

end Nic.Arb.Map
