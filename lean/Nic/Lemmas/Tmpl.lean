import Nic.Model.Tmpl
import Nic.Lemmas.NgxLex
/-!
  Building blocks of the soundness of the template analysis (`Nic/Model/Tmpl.lean`): the analysis reads literal text
  with argument counts clipped to {0, ≥1}; that abstraction is exact for errors and for every other component of the
  tokenizer state.
-/
namespace Nic.Tmpl
open Nic.NgxLex

theorem clip_idem (s : St) : clip (clip s) = clip s := by
  unfold clip; cases s; simp

theorem clip_fields (s : St) : (clip s).mode = s.mode ∧ (clip s).esc = s.esc ∧ (clip s).var = s.var ∧
    (clip s).depth = s.depth ∧ (clip s).err = s.err ∧ ((clip s).nargs = 0 ↔ s.nargs = 0) := by
  unfold clip; cases s; simp

/-- `step` reads the argument count only through `nargs == 0`, and leaves it, resets it or adds one to it. -/
theorem step_nargs (s : St) (c : Char) (n : Nat) (hn : (n == 0) = (s.nargs == 0)) :
    clip (step { s with nargs := n } c).1 = clip (step s c).1 := by
  have hn' : (n != 0) = (s.nargs != 0) := by simp only [bne, hn]
  have hc : min n 1 = min s.nargs 1 := by
    have : n = 0 ↔ s.nargs = 0 := by simpa using congrArg (· = true) hn
    omega
  fun_cases step s c <;> simp [step, clip, fresh, fail, endDir, openBlock, *] <;> simp_all

/-- One tokenizer step commutes with clipping the argument count. -/
theorem clip_step (s : St) (c : Char) :
    clip (step (clip s) c).1 = clip (step s c).1 ∧ ((step (clip s) c).1.err = (step s c).1.err) :=
  have h : clip (step (clip s) c).1 = clip (step s c).1 :=
    step_nargs s c (min s.nargs 1) (by cases s.nargs <;> simp)
  ⟨h, (congrArg St.err h :)⟩

/-- The analysis' reading of literal text agrees with the tokenizer: it fails exactly when the tokenizer reports an
error, and otherwise ends in the tokenizer's state up to the argument count. -/
theorem runText_sound (cs : List Char) : ∀ (s t : St), s.err = false → runText (clip s) cs = some t →
    (run s cs).1.err = false ∧ clip (run s cs).1 = t ∧ Ev.err ∉ (run s cs).2 := by
  suffices h : ∀ (s t : St), s.err = false → runText (clip s) cs = some t →
      (run s cs).1.err = false ∧ clip (run s cs).1 = t from
    fun s t hs ht => have ⟨a, b⟩ := h s t hs ht; ⟨a, b, run_noerr cs s a⟩
  induction cs with
  | nil => intro s t hs h; exact ⟨hs, Option.some.inj h⟩
  | cons c cs ih =>
    intro s t hs h
    obtain ⟨hc1, hc2⟩ := clip_step s c
    rw [runText, hc1, hc2] at h
    split at h
    · cases h
    · exact ih _ t (Bool.eq_false_iff.mpr ‹_›) h

theorem eofOk_clip (s : St) : eofOk (clip s) = eofOk s := by
  obtain ⟨m, e, v, n, d, r⟩ := s
  cases n <;> simp [eofOk, clip]

/-- A template without interpolation sites: if the analysis accepts the text, the file is well formed. -/
theorem text_wellFormed (cs : List Char) (t : St) (h : runText init cs = some t) (hok : eofOk t = true) :
    wellFormed cs = true := by
  obtain ⟨_, b, _⟩ := runText_sound cs init t rfl h
  rw [← b, eofOk_clip] at hok
  exact hok

end Nic.Tmpl
