/-
  String-level injectivity of separator-joined names.
-/
namespace Nic.Naming

theorem sepJoin_inj {α} [DecidableEq α] (sep : α) (a a' b b' : List α) (ha : sep ∉ a) (ha' : sep ∉ a')
    (h : a ++ sep :: b = a' ++ sep :: b') : a = a' ∧ b = b' := by
  -- `a` is what precedes the first `sep`
  have pre : ∀ a b : List α, sep ∉ a → (a ++ sep :: b).takeWhile (· != sep) = a := fun a b ha => by
    rw [List.takeWhile_append_of_pos fun x hx => bne_iff_ne.mpr (ne_of_mem_of_not_mem hx ha),
      List.takeWhile_cons_of_neg (by simp), List.append_nil]
  have e : a = a' := by rw [← pre a b ha, h, pre a' b' ha']
  subst e
  exact ⟨rfl, (List.cons.inj (List.append_cancel_left h)).2⟩

/-- A string without the character `c`. -/
def Free (c : Char) (s : String) : Prop := c ∉ s.toList

theorem free_append {c : Char} {a b : String} : Free c (a ++ b) ↔ Free c a ∧ Free c b := by
  simp only [Free, String.toList_append, List.mem_append, not_or]

theorem join_inj (sepS : String) (sep : Char) (hsep : sepS.toList = [sep]) (a a' b b' : String)
    (ha : Free sep a) (ha' : Free sep a') (h : a ++ sepS ++ b = a' ++ sepS ++ b') : a = a' ∧ b = b' := by
  have h' := congrArg String.toList h
  simp only [String.toList_append, hsep, List.append_assoc, List.singleton_append] at h'
  obtain ⟨e1, e2⟩ := sepJoin_inj sep _ _ _ _ ha ha' h'
  exact ⟨String.toList_injective e1, String.toList_injective e2⟩

theorem join3_inj (pre sepS : String) (sep : Char) (hsep : sepS.toList = [sep]) (a a' b b' : String)
    (ha : Free sep a) (ha' : Free sep a')
    (h : pre ++ a ++ sepS ++ b = pre ++ a' ++ sepS ++ b') : a = a' ∧ b = b' :=
  join_inj sepS sep hsep a a' b b' ha ha'
    ((String.append_right_inj pre).mp (by simpa only [String.append_assoc] using h))

end Nic.Naming
