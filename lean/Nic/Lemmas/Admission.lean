/-
  getValidListeners (model `admitAll`, with its bookkeeping lists that also record
  dropped entries) computes exactly the greedy admission spec `Spec.admitSpec`;
  what every list admitted by the spec satisfies.
-/
import Nic.Model.Arb
import Nic.Spec.Arb
namespace Nic.Arb
open Spec

def validProto (p : String) : Prop := p = "TCP" ∨ p = "UDP" ∨ p = "HTTP"

/-- On the three protocols `conflicts` is "same conflict class", hence an equivalence. -/
theorem conflicts_iff_class {p q : String} (hp : validProto p) (hq : validProto q) :
    conflicts p q = true ↔ conflictClass p = conflictClass q := by
  rcases hp with rfl | rfl | rfl <;> rcases hq with rfl | rfl | rfl <;> decide

theorem conflicts_trans {p q r : String} (hp : validProto p) (hq : validProto q) (hr : validProto r)
    (h1 : conflicts p q = true) (h2 : conflicts q r = true) : conflicts p r = true :=
  (conflicts_iff_class hp hr).mpr (((conflicts_iff_class hp hq).mp h1).trans ((conflicts_iff_class hq hr).mp h2))

theorem selfOk_validProto {forb ok4 ok6} {l : Listener} (h : selfOk forb ok4 ok6 l = true) : validProto l.proto := by
  unfold selfOk at h
  simp only [Bool.and_eq_true, Bool.or_eq_true, decide_eq_true_eq] at h
  exact or_assoc.mp h.1.1.2

theorem clashes_append (seen : List (String × Nat × String)) (e : String × Nat × String) (ip : String) (port : Nat)
    (proto : String) :
    clashes (seen ++ [e]) ip port proto = (clashes seen ip port proto || (e.1 = ip && e.2.1 = port && conflicts proto e.2.2)) := by
  simp [clashes]

/-- What one of the bookkeeping lists (`v4` with `ip4`, `v6` with `ip6`) is good for: it also holds the entries
of dropped listeners, and yet answers "is this ip:port taken by a conflicting protocol?" as the admitted
listeners alone would. -/
def SeenInv (ip : Listener → String) (out : List Listener) (seen : List (String × Nat × String)) : Prop :=
  ∀ i port proto, validProto proto →
    (clashes seen i port proto = true ↔ ∃ o ∈ out, ip o = i ∧ o.port = port ∧ conflicts proto o.proto = true)

structure AdmInv (forb : List Nat) (ok4 ok6 : String → Bool) (a : Adm) : Prop where
  names : ∀ n, n ∈ a.names ↔ n ∈ a.out.map (·.name)
  valid : ∀ o ∈ a.out, selfOk forb ok4 ok6 o = true
  s4 : SeenInv ip4 a.out a.v4
  s6 : SeenInv ip6 a.out a.v6

section Seen
variable {ip : Listener → String} {out : List Listener} {seen : List (String × Nat × String)} {l : Listener}

/-- The entry of a listener dropped for a clash changes no answer: whatever clashes with the entry also clashes
with the admitted listener that the dropped one clashed with (`conflicts` is transitive). -/
theorem SeenInv.drop (hs : SeenInv ip out seen) (hv : ∀ o ∈ out, validProto o.proto) (hl : validProto l.proto)
    (hc : ∃ o ∈ out, ip o = ip l ∧ o.port = l.port ∧ conflicts l.proto o.proto = true) :
    SeenInv ip out (seen ++ [(ip l, l.port, l.proto)]) := by
  intro i port proto hp
  rw [clashes_append, Bool.or_eq_true, hs i port proto hp]
  refine ⟨fun h => h.elim id fun h => ?_, Or.inl⟩
  simp only [Bool.and_eq_true, decide_eq_true_eq] at h
  obtain ⟨o, ho, h1, h2, h3⟩ := hc
  exact ⟨o, ho, h1.trans h.1.1, h2.trans h.1.2, conflicts_trans hp hl (hv o ho) h.2 h3⟩

theorem SeenInv.accept (hs : SeenInv ip out seen) : SeenInv ip (out ++ [l]) (seen ++ [(ip l, l.port, l.proto)]) := by
  intro i port proto hp
  rw [clashes_append, Bool.or_eq_true, hs i port proto hp]
  simp only [Bool.and_eq_true, decide_eq_true_eq, List.mem_append, List.mem_singleton, or_and_right, exists_or,
    exists_eq_left, and_assoc]

end Seen

theorem ipOr_ip4 (l : Listener) : ipOr l.v4 "0.0.0.0" = ip4 l := rfl
theorem ipOr_ip6 (l : Listener) : ipOr l.v6 "::" = ip6 l := rfl

section Inv
variable {forb : List Nat} {ok4 ok6 : String → Bool} {a : Adm}

theorem admInv_init : AdmInv forb ok4 ok6 {} :=
  ⟨by simp, by simp, by simp [SeenInv, clashes], by simp [SeenInv, clashes]⟩

theorem AdmInv.dropped (hi : AdmInv forb ok4 ok6 a) (d : List (String × String)) :
    AdmInv forb ok4 ok6 { a with dropped := d } := ⟨hi.names, hi.valid, hi.s4, hi.s6⟩

theorem AdmInv.accept (hi : AdmInv forb ok4 ok6 a) {l : Listener} (hs : selfOk forb ok4 ok6 l = true) :
    AdmInv forb ok4 ok6 { a with names := l.name :: a.names, v4 := a.v4 ++ [(ip4 l, l.port, l.proto)],
                                  v6 := a.v6 ++ [(ip6 l, l.port, l.proto)], out := a.out ++ [l] } := by
  refine ⟨fun n => ?_, List.forall_mem_append.mpr ⟨hi.valid, List.forall_mem_singleton.mpr hs⟩,
    hi.s4.accept, hi.s6.accept⟩
  rw [List.mem_cons, hi.names, List.map_append, List.mem_append, List.map_singleton, List.mem_singleton]
  exact or_comm

end Inv

def specStep (forb : List Nat) (ok4 ok6 : String → Bool) (acc : List Listener) (l : Listener) : List Listener :=
  if selfOk forb ok4 ok6 l && acc.all (fun a => a.name ≠ l.name && !(clash a l)) then acc ++ [l] else acc

theorem admitSpec_eq (forb ok4 ok6) (ls : List Listener) :
    admitSpec forb ok4 ok6 ls = ls.foldl (specStep forb ok4 ok6) [] := rfl

theorem clash_iff (a b : Listener) :
    clash a b = true ↔ (ip4 a = ip4 b ∧ a.port = b.port ∧ conflicts b.proto a.proto = true) ∨
      (ip6 a = ip6 b ∧ a.port = b.port ∧ conflicts b.proto a.proto = true) := by
  simp only [clash, Bool.and_eq_true, Bool.or_eq_true, decide_eq_true_eq]
  rw [and_or_left, and_comm (b := ip4 a = ip4 b), and_comm (b := ip6 a = ip6 b)]

/-- Under the invariant the three look-ups of `getValidListeners` (`names`, `v4`, `v6`) together are the spec's test
against the admitted entries. -/
theorem AdmInv.test {forb ok4 ok6} {a : Adm} (hi : AdmInv forb ok4 ok6 a) {l : Listener} (hl : validProto l.proto) :
    (a.out.all fun o => o.name ≠ l.name && !(clash o l)) = true ↔
      ¬ a.names.contains l.name = true ∧ ¬ clashes a.v4 (ip4 l) l.port l.proto = true ∧
        ¬ clashes a.v6 (ip6 l) l.port l.proto = true := by
  rw [List.contains_iff_mem, hi.names, hi.s4 _ _ _ hl, hi.s6 _ _ _ hl]
  -- both sides say, of every `o ∈ a.out`: another name, no clash on IPv4, none on IPv6
  simp only [List.all_eq_true, Bool.and_eq_true, decide_eq_true_eq, Bool.not_eq_true', ← Bool.not_eq_true, clash_iff,
    List.mem_map, not_exists, not_and, not_or, imp_and, forall_and]

/-- **One step of the real bookkeeping = one step of the spec**, and the invariant is kept. -/
theorem admitOne_step {forb ok4 ok6} {a : Adm} (hi : AdmInv forb ok4 ok6 a) (l : Listener) :
    AdmInv forb ok4 ok6 (admitOne forb ok4 ok6 a l) ∧
    (admitOne forb ok4 ok6 a l).out = specStep forb ok4 ok6 a.out l := by
  unfold admitOne specStep
  dsimp only [ipOr_ip4, ipOr_ip6]
  cases hs : selfOk forb ok4 ok6 l with
  | false => exact ⟨hi.dropped _, rfl⟩
  | true =>
    have hl := selfOk_validProto hs
    have hv : ∀ o ∈ a.out, validProto o.proto := fun o ho => selfOk_validProto (hi.valid o ho)
    have ht := hi.test hl
    rw [Bool.not_true, if_neg Bool.false_ne_true, Bool.true_and]
    by_cases cn : a.names.contains l.name = true
    · rw [if_pos cn, if_neg fun h => (ht.mp h).1 cn]
      exact ⟨hi.dropped _, rfl⟩
    rw [if_neg cn]
    by_cases c4 : clashes a.v4 (ip4 l) l.port l.proto = true
    · rw [if_pos c4, if_neg fun h => (ht.mp h).2.1 c4]
      exact ⟨⟨hi.names, hi.valid, hi.s4.drop hv hl ((hi.s4 _ _ _ hl).mp c4), hi.s6⟩, rfl⟩
    rw [if_neg c4]
    by_cases c6 : clashes a.v6 (ip6 l) l.port l.proto = true
    · rw [if_pos c6, if_neg fun h => (ht.mp h).2.2 c6]
      exact ⟨⟨hi.names, hi.valid, hi.s4, hi.s6.drop hv hl ((hi.s6 _ _ _ hl).mp c6)⟩, rfl⟩
    rw [if_neg c6, if_pos (ht.mpr ⟨cn, c4, c6⟩)]
    exact ⟨hi.accept hs, rfl⟩

/-- **`getValidListeners` = the greedy admission spec**, for every listener list, reserved-port
table and IP validator verdicts. -/
theorem admission_eq_spec (forb : List Nat) (ok4 ok6 : String → Bool) (ls : List Listener) :
    (admitAll forb ok4 ok6 ls).out = Spec.admitSpec forb ok4 ok6 ls :=
  (List.foldl_rel (r := fun a acc => AdmInv forb ok4 ok6 a ∧ a.out = acc) ⟨admInv_init, rfl⟩
    fun l _ _ _ ⟨hi, e⟩ => e ▸ admitOne_step hi l).2

/-- What every list admitted by the spec satisfies. -/
def Admissible (forb : List Nat) (ok4 ok6 : String → Bool) (acc : List Listener) : Prop :=
  (∀ l ∈ acc, selfOk forb ok4 ok6 l = true) ∧ acc.Pairwise (fun a b => a.name ≠ b.name ∧ clash a b = false)

theorem admitSpec_admissible (forb ok4 ok6) (ls : List Listener) : Admissible forb ok4 ok6 (admitSpec forb ok4 ok6 ls) := by
  refine List.foldlRecOn ls _ ⟨by simp, .nil⟩ fun acc ⟨h1, h2⟩ l _ => ?_
  split
  · next hc =>
    simp only [Bool.and_eq_true, List.all_eq_true, decide_eq_true_eq, Bool.not_eq_true', ne_eq] at hc
    exact ⟨List.forall_mem_append.mpr ⟨h1, List.forall_mem_singleton.mpr hc.1⟩, List.pairwise_append.mpr
      ⟨h2, List.pairwise_singleton _ _, fun a ha => List.forall_mem_singleton.mpr (hc.2 a ha)⟩⟩
  · exact ⟨h1, h2⟩

theorem admitSpec_sublist (forb ok4 ok6) (ls : List Listener) : (admitSpec forb ok4 ok6 ls).Sublist ls := by
  -- folding from `acc`, what is added to `acc` is a subsequence of the input
  suffices ∀ acc, ∃ s, s.Sublist ls ∧ ls.foldl (specStep forb ok4 ok6) acc = acc ++ s by
    obtain ⟨s, hs, e⟩ := this []
    rw [admitSpec_eq, e]; exact hs
  induction ls with
  | nil => exact fun acc => ⟨[], .slnil, (List.append_nil acc).symm⟩
  | cons l r ih =>
    intro acc
    obtain ⟨s, hs, e⟩ := ih (specStep forb ok4 ok6 acc l)
    rw [List.foldl_cons, e]
    unfold specStep
    split
    · exact ⟨l :: s, hs.cons_cons l, List.append_assoc ..⟩
    · exact ⟨s, hs.cons l, rfl⟩

end Nic.Arb
