/-
  Listener ownership: the (listener,host) holder fold over any iteration order of
  the TransportServer map is the ostep fold over `Spec.lclaimsOf`, and every
  TransportServerConfiguration in the build is bound to the listener with its
  name and protocol.
-/
import Nic.Lemmas.Owner
namespace Nic.Arb
open Spec

theorem laddWarning_lhosts (b : LBuild) (k w : String) : (b.addWarning k w).lhosts = b.lhosts := by
  unfold LBuild.addWarning; split <;> rfl

def lclaimOf (gc : Option (List Listener)) (kv : String × TS) : Option Claim :=
  if kv.2.proto = "TLS_PASSTHROUGH" then none else
  (listenerFor gc kv.2).map fun l => ⟨lkey l.name kv.2.host, tsKey kv.2, kv.2.md⟩

theorem lclaimsOf_eq (gc : Option (List Listener)) (tss : List (String × TS)) :
    Spec.lclaimsOf gc tss = tss.filterMap (lclaimOf gc) := rfl

/-! ### what a claim on a (listener, host) pair comes from -/

theorem listenerFor_some {gc : Option (List Listener)} {t : TS} {l : Listener} (h : listenerFor gc t = some l) :
    t.lname = l.name ∧ t.proto = l.proto ∧ ∃ ls, gc = some ls ∧ l ∈ ls := by
  cases gc with
  | none => cases h
  | some ls =>
    have hf := List.find?_some h
    simp only [Bool.and_eq_true, decide_eq_true_eq] at hf
    exact ⟨hf.1, hf.2, ls, rfl, List.mem_of_find?_eq_some h⟩

theorem mem_lclaimsOf {gc : Option (List Listener)} {tss : List (String × TS)} {c : Claim} (h : c ∈ Spec.lclaimsOf gc tss) :
    ∃ kv ∈ tss, ∃ l, listenerFor gc kv.2 = some l ∧ c = ⟨lkey l.name kv.2.host, tsKey kv.2, kv.2.md⟩ := by
  obtain ⟨kv, hkv, he⟩ := List.mem_filterMap.mp h
  refine ⟨kv, hkv, ?_⟩
  dsimp only at he
  split at he
  · cases he
  · obtain ⟨l, hl, rfl⟩ := Option.map_eq_some_iff.mp he
    exact ⟨l, hl, rfl⟩

/-- `lstep` has its own copy of the holder comparison of `Build.claim`. -/
theorem lstep_lhosts (gc : Option (List Listener)) (b : LBuild) (kv : String × TS) :
    (lstep gc b kv).lhosts = match lclaimOf gc kv with | some c => ostep b.lhosts c | none => b.lhosts := by
  unfold lstep lclaimOf ostep
  dsimp only
  by_cases hp : kv.2.proto = "TLS_PASSTHROUGH"
  · rw [if_pos hp, if_pos hp]
  · rw [if_neg hp, if_neg hp]
    cases listenerFor gc kv.2 with
    | none => rfl
    | some l =>
      dsimp only [Option.map_some]
      cases b.lhosts.get? (lkey l.name kv.2.host) with
      | none => rfl
      | some p =>
        dsimp only
        cases beats p.2 kv.2.md
        · rfl
        · exact laddWarning_lhosts _ _ _

theorem buildListenerHosts_lhosts (o : Objs) (ord : List (String × TS)) :
    (buildListenerHosts o ord).lhosts = (Spec.lclaimsOf o.gc ord).foldl ostep [] := by
  rw [lclaimsOf_eq, List.foldl_filterMap]
  exact (List.foldl_hom LBuild.lhosts fun b kv => by rw [lstep_lhosts]; cases lclaimOf o.gc kv <;> rfl).symm

/-! ### binding -/

/-- A snapshot carries exactly the port and addresses of the listener that has its TransportServer's name
and protocol (or none). -/
def Bound (gc : Option (List Listener)) (c : TSCfg) : Prop :=
  match gc.bind (fun ls => ls.find? (fun l => c.lname = l.name && c.proto = l.proto)) with
  | some l => c.port = l.port ∧ c.v4 = l.v4 ∧ c.v6 = l.v6
  | none => c.port = 0 ∧ c.v4 = "" ∧ c.v6 = ""

theorem tsCfgOf_bound (gc : Option (List Listener)) (t : TS) : Bound gc (tsCfgOf gc t) := by
  have hl : (gc.bind fun ls => ls.find? fun l => t.lname = l.name && t.proto = l.proto) = listenerFor gc t := by
    cases gc <;> rfl
  unfold Bound tsCfgOf
  cases h : listenerFor gc t <;> simp only [hl, h, and_self]

def AllBound (gc : Option (List Listener)) (b : LBuild) : Prop :=
  ∀ k c, b.cfgs.get? k = some c → Bound gc c

theorem addWarning_allBound (gc) (b : LBuild) (k w : String) (h : AllBound gc b) : AllBound gc (b.addWarning k w) := by
  unfold LBuild.addWarning
  cases hg : b.cfgs.get? k with
  | none => exact h
  | some c => exact Map.forall_get?_set h k (h k c hg)

theorem lhosts_allBound (gc) (b : LBuild) (m : Map (String × Meta)) (h : AllBound gc b) :
    AllBound gc { b with lhosts := m } := h

theorem lstep_allBound (gc) (b : LBuild) (kv : String × TS) (h : AllBound gc b) : AllBound gc (lstep gc b kv) := by
  have h1 : AllBound gc { b with cfgs := b.cfgs.set (tsKey kv.2) (tsCfgOf gc kv.2) } :=
    Map.forall_get?_set h _ (tsCfgOf_bound gc kv.2)
  unfold lstep
  dsimp only
  split
  · exact h
  · split
    · exact h1
    · split
      · exact h1
      · split <;> exact addWarning_allBound gc _ _ _ h1

theorem buildListenerHosts_allBound (o : Objs) (ord : List (String × TS)) :
    AllBound o.gc (buildListenerHosts o ord) :=
  List.foldlRecOn ord _ (fun _ _ hc => nomatch hc) fun b hb kv _ => lstep_allBound o.gc b kv hb

end Nic.Arb
